/-
  C08 — Base58, Base58Check and Bech32 decoding are exact partial inverses of encoding.
  The lemmas they rest on are in `Proofs/Base58.lean` and `Proofs/Bech32*.lean`.
  Strings are byte strings (`Bytes`), as in the Go code.
-/
import BtcVerif.Props.GuardPins.P_bech32
import BtcVerif.Props.GuardPins.P_base58check
import BtcVerif.Props.GuardPins.P_base58
import BtcVerif.Proofs.Base58
import BtcVerif.Proofs.Bech32Ref
import BtcVerif.Proofs.Bech32EncRef

namespace BtcVerif.Props.C08
open BtcVerif BtcVerif.Model

/-! ### ties to the regenerated constants (T1) -/

/-- the Base58 alphabet of the source has 58 distinct characters -/
theorem b58_alphabet_nodup : Base58.alphabet.length = 58 ∧ Base58.alphabet.Nodup :=
  ⟨Base58.alphabet_length, Proofs.Base58.alphabet_nodup⟩

/-- `'1'` is the zero digit -/
theorem b58_alphabet_zero : Base58.alphabet.head? = some 0x31 := by decide

/-- the Bech32 alphabet of the source is the one of BIP173 … -/
theorem bech32_alphabet_eq_spec : Bech32.alphabet = Spec.Bech32.charset := by decide

/-- … and so is the generator -/
theorem bech32_generator_eq_spec :
    Gen.constants_Bech32ChecksumGen = [0x3b6a57b2, 0x26508e6d, 0x1ea119fa, 0x3d4233dd, 0x2a1462b3] := by
  decide

theorem bech32_separator_eq : strBytes Gen.bech32_Separator = [Bech32.sepChar] := by decide

/-- decoding what was encoded gives the bytes back, for every byte string -/
theorem b58_dec_enc (bs : Bytes) : Base58.decode (Base58.encode bs) = .ok bs :=
  Proofs.Base58.decode_encode bs

/-- every accepted string is the encoding of what it decodes to, so no two strings denote the
    same bytes -/
theorem b58_enc_dec (s bs : Bytes) (h : Base58.decode s = .ok bs) : Base58.encode bs = s :=
  Proofs.Base58.encode_decode s bs h

theorem b58_dec_injective (s₁ s₂ bs : Bytes) (h₁ : Base58.decode s₁ = .ok bs)
    (h₂ : Base58.decode s₂ = .ok bs) : s₁ = s₂ := by
  rw [← b58_enc_dec s₁ bs h₁, ← b58_enc_dec s₂ bs h₂]

theorem b58_no_panic (s : Bytes) : Base58.decode s ≠ .panic := Proofs.Base58.decode_ne_panic s

example : Base58.decode (Base58.encode [0, 0, 1, 2]) = .ok [0, 0, 1, 2] := b58_dec_enc _

/-! ### Base58Check, for ANY checksum function with four-byte values -/

theorem b58c_dec_enc (ck : Bytes → Bytes) (hck : ∀ x, (ck x).length = 4) (d : Bytes) :
    Base58Check.decode ck (Base58Check.encode ck d) = .ok d :=
  Proofs.Base58.Check.decode_encode ck hck d

theorem b58c_dec_encVersion (ck : Bytes → Bytes) (hck : ∀ x, (ck x).length = 4) (d : Bytes) (v : Nat) :
    Base58Check.decode ck (Base58Check.encodeVersion ck d v) = .ok (Base58Check.versionBytes v ++ d) :=
  Proofs.Base58.Check.decode_encode ck hck _

theorem b58c_enc_dec (ck : Bytes → Bytes) (s d : Bytes) (h : Base58Check.decode ck s = .ok d) :
    Base58Check.encode ck d = s :=
  Proofs.Base58.Check.encode_decode ck s d h

/-- any checksum mismatch is an error: a string that Base58-decodes to bytes whose last four are
    not the checksum of the others is rejected -/
theorem b58c_rejects_bad_checksum (ck : Bytes → Bytes) (s dec : Bytes)
    (h : Base58.decode s = .ok dec)
    (hbad : ck (dec.take (dec.length - 4)) ≠ dec.drop (dec.length - 4)) :
    Base58Check.decode ck s = .err :=
  Proofs.Base58.Check.rejects_bad_checksum ck s dec h hbad

/-- in particular: payload followed by any four bytes other than its checksum -/
theorem b58c_rejects_wrong_tail (ck : Bytes → Bytes) (d t : Bytes) (ht : t.length = 4)
    (hne : t ≠ ck d) : Base58Check.decode ck (Base58.encode (d ++ t)) = .err := by
  apply b58c_rejects_bad_checksum ck _ (d ++ t) (b58_dec_enc _)
  rw [show (d ++ t).length - 4 = d.length by simp [ht], List.take_left, List.drop_left]
  exact fun h => hne h.symm

theorem b58c_no_panic (ck : Bytes → Bytes) (s : Bytes) : Base58Check.decode ck s ≠ .panic :=
  Proofs.Base58.Check.decode_ne_panic ck s

/-- the hypothesis on the checksum function is satisfiable -/
example : ∀ x : Bytes, ((fun _ => [1, 2, 3, 4]) x : Bytes).length = 4 := fun _ => rfl

open Proofs.Bech32 in
/-- the checksum computation is XOR-linear: runs over value lists of the same length add up -/
theorem polymod_linear (xs ys : List Nat) (c d : Nat) (h : xs.length = ys.length) :
    pm (c ^^^ d) (List.zipWith (· ^^^ ·) xs ys) = pm c xs ^^^ pm d ys :=
  pm_linear xs ys c d h

/-- `bech32Polymod` is `pm` started at 1 -/
theorem polymod_is_pm (vs : List Nat) : Bech32.polymod vs = Proofs.Bech32.pm 1 vs := rfl

/-- the six values `bech32CreateChecksum` appends make `bech32VerifyChecksum` succeed -/
theorem checksum_verifies (hrp : Bytes) (values : List Nat) (hv : ∀ v ∈ values, v < 32) :
    Bech32.verifyChecksum hrp (values ++ Bech32.createChecksum hrp values) = true :=
  Proofs.Bech32.verify_create hrp values hv

/-- … and no other six values do -/
theorem checksum_unique (hrp : Bytes) (values cs : List Nat) (hv : ∀ v ∈ values, v < 32)
    (hcl : cs.length = 6) (hc : ∀ c ∈ cs, c < 32)
    (h : Bech32.verifyChecksum hrp (values ++ cs) = true) : cs = Bech32.createChecksum hrp values :=
  Proofs.Bech32.verify_unique hrp values cs hv hcl hc h

/-- the model's checksum is the reference's -/
theorem checksum_eq_reference (hrp : Bytes) (d : List Nat) :
    Bech32.verifyChecksum hrp d = Spec.Bech32.verifyChecksum hrp d :=
  Proofs.Bech32.verify_eq_spec hrp d

/-- decode ∘ encode: for a valid human-readable part (non-empty, characters 33..126, no upper
    case), a version below 32, a non-empty payload and a total length of at most 90 characters,
    `Encode` succeeds and `Decode` returns exactly the three inputs -/
theorem bech32_dec_enc (hrp : Bytes) (version : Nat) (data : Bytes) (hh : Proofs.Bech32.ValidHrp hrp)
    (hv : version < 32) (hne : data ≠ [])
    (hlen : hrp.length + 8 + (8 * data.length + 4) / 5 ≤ 90) :
    ∃ s, Bech32.encode hrp version data = .ok s ∧ Bech32.decode s = .ok (hrp, version, data) := by
  have := Proofs.Bech32.bytesToIndices_length data hne
  exact Proofs.Bech32.decode_encode hrp version data hh hv hne (by omega)

/-- encode ∘ decode: whatever `Decode` accepts re-encodes to the (lower-cased) input, so no two
    strings that differ by more than case denote the same (hrp, version, payload) -/
theorem bech32_enc_dec_canonical (s hrp : Bytes) (version : Nat) (data : Bytes)
    (hd : Bech32.decode s = .ok (hrp, version, data)) :
    Bech32.encode hrp version data = .ok (Bech32.lower s) :=
  Proofs.Bech32.encode_decode s hrp version data hd

/-- a string is accepted exactly when the BIP173 reference decoder accepts it, with the same
    result — for EVERY string (mixed case, characters outside the alphabet, lengths, empty data
    part, non-zero or over-long padding, checksum) -/
theorem model_eq_reference (s : Bytes) : Bech32.decode s = Spec.Bech32.bip173Decode s :=
  Proofs.Bech32.decode_eq_spec s

/-- on its domain (non-empty payload, version below 32, at most 90 characters) `Encode` returns
    exactly the string of the BIP173 reference encoder
    `bech32_encode(hrp, [version] + convertbits(payload, 8, 5))` -/
theorem bech32_enc_eq_reference (hrp : Bytes) (version : Nat) (data : Bytes) (hne : data ≠ [])
    (hv : version < 32) (hlen : hrp.length + 8 + (8 * data.length + 4) / 5 ≤ 90) :
    Spec.Bech32.toOutcome (Spec.Bech32.bip173Encode hrp version data) = Bech32.encode hrp version data := by
  have := Proofs.Bech32.bytesToIndices_length data hne
  exact Proofs.Bech32.encode_eq_spec hrp version data hne hv (by omega)

/-- `Decode` cannot panic … -/
theorem no_panic (s : Bytes) : Bech32.decode s ≠ .panic := Proofs.Bech32.decode_ne_panic s

/-- … and neither can `Encode` -/
theorem encode_no_panic (hrp : Bytes) (version : Nat) (hb : version < 256) (data : Bytes) :
    Bech32.encode hrp version data ≠ .panic :=
  Proofs.Bech32.encode_ne_panic hrp version hb data

/-- `Encode` never returns a string longer than 90 characters (D13) -/
theorem encode_length_le (hrp : Bytes) (version : Nat) (hb : version < 256) (data s : Bytes)
    (h : Bech32.encode hrp version data = .ok s) : s.length ≤ 90 := by
  rw [Proofs.Bech32.encode_eq hrp version hb data] at h
  split at h
  · cases h
  · rename_i hdom
    cases h
    simp only [List.length_append, List.length_cons, List.length_nil, List.length_map,
      Proofs.Bech32.createChecksum_length]
    omega

/-- error detection at the level of data values: if `data` verifies, no value list of the same
    length at Hamming distance 1 or 2 verifies (data parts of up to 89 values; a 90-character
    string has at most 88). The proof is XOR-linearity, injectivity of the zero-input state
    transition, and a kernel-checked table of 31 × 88 polymod rounds over the regenerated
    generator constants. -/
theorem detects_two_substitutions (hrp : Bytes) (data data' : List Nat)
    (hlen : data'.length = data.length) (hd : ∀ x ∈ data, x < 32) (hd' : ∀ x ∈ data', x < 32)
    (hmax : data.length ≤ 89) (hv : Bech32.verifyChecksum hrp data = true)
    (h1 : 1 ≤ Proofs.Bech32.hamming data data') (h2 : Proofs.Bech32.hamming data data' ≤ 2) :
    Bech32.verifyChecksum hrp data' = false := by
  open Proofs.Bech32 Bech32 in
  · have hv1 := (verify_iff _ _).mp hv
    rw [← Bool.not_eq_true, verify_iff]
    intro hv1'
    -- the two runs differ by the syndrome of the error pattern `data ⊕ data'`
    have hlin := pm_linear data data' (pm 1 (hrpExpand hrp)) (pm 1 (hrpExpand hrp)) hlen.symm
    rw [Nat.xor_self, ← pm_append, ← pm_append, hv1, hv1'] at hlin
    have hnz := nz_zipWith_xor data data' hlen.symm
    exact syndrome_ne_zero _ (zipWith_xor_lt _ _ hd hd') (hnz ▸ h1) (hnz ▸ h2)
      (by rw [List.length_zipWith, hlen, Nat.min_self]; exact hmax) hlin

/-- … and at the level of strings: substituting one or two data characters of a valid string
    (of at most 90 characters) by other alphabet characters gives a string `Decode` rejects -/
theorem detects_two_substitutions_string (hrp : Bytes) (hh : Proofs.Bech32.ValidHrp hrp)
    (data data' : List Nat) (hlen : data'.length = data.length) (hd : ∀ x ∈ data, x < 32)
    (hd' : ∀ x ∈ data', x < 32) (htot : hrp.length + 1 + data.length ≤ 90)
    (hv : Bech32.verifyChecksum hrp data = true)
    (h1 : 1 ≤ Proofs.Bech32.hamming data data') (h2 : Proofs.Bech32.hamming data data' ≤ 2) :
    Bech32.decode (hrp ++ [Bech32.sepChar] ++ data'.map Proofs.Bech32.achar) = .err := by
  rw [Proofs.Bech32.decode_built hh hd' (by omega),
    detects_two_substitutions hrp data data' hlen hd hd' (by omega) hv h1 h2, if_pos rfl]

/-- the hypotheses are satisfiable: the BIP173 test vector `a12uel5l` (hrp "a", empty data) -/
example : Bech32.verifyChecksum [0x61] [10, 28, 25, 31, 20, 31] = true := by decide
example : Proofs.Bech32.ValidHrp [0x62, 0x63] := ⟨by decide, by decide, by decide⟩

open BtcVerif.Gen.Guards in
/-- the mixed-case test of `bech32.Validate` (decode.go:80) is the conjunction the model writes by hand:
the string differs from its lower-case form and from its upper-case form -/
theorem mixed_case_test_pinned (s lower upper : String) :
    bech32_Validate_4 (bechAndHrp := s) (lowerCase := lower) (upperCase := upper) =
      (decide (s ≠ lower) && decide (s ≠ upper)) := rfl

end BtcVerif.Props.C08
