/-
  C01 — the wire codec is an exact inverse pair.
  Property theorems only (helper lemmas live in BtcVerif/Proofs). Every theorem quantifies over
  all values of the stated domain and over an arbitrary trailing stream `rest` that must be left
  unread (so objects can be read back to back).
-/
import BtcVerif.Props.GuardPins.P_varint
import BtcVerif.Props.GuardPins.P_blocks_blockheader
import BtcVerif.Props.GuardPins.P_blocks
import BtcVerif.Props.GuardPins.P_tx
import BtcVerif.Proofs.Tx
import BtcVerif.Proofs.Block
import BtcVerif.Proofs.NoPanic
import BtcVerif.Proofs.WireSpec

namespace BtcVerif.Props.C01
open BtcVerif BtcVerif.Model BtcVerif.Parser

/-- compact sizes: decode ∘ encode, every uint64 -/
theorem varint_dec_enc (v : Nat) (rest : Bytes) (hv : v < 2 ^ 64) :
    decVarint (encVarint v ++ rest) = .ok (v, rest) := decVarint_encVarint v rest hv

/-- compact sizes: encode ∘ decode on canonical (minimal) input -/
theorem varint_enc_dec_canonical {s rest : Bytes} {v w : Nat}
    (hcanon : s = encVarint w ++ rest) (hw : w < 2 ^ 64) (h : decVarint s = .ok (v, rest)) :
    encVarint v ++ rest = s := by
  subst hcanon
  cases (decVarint_encVarint w rest hw).symm.trans h
  rfl

theorem prevout_dec_enc (p : PrevOut) (rest : Bytes) (h : WFPrevOut p) :
    decPrevOut (encPrevOut p ++ rest) = .ok (p, rest) := decPrevOut_enc p rest h

theorem input_dec_enc (i : TxIn) (rest : Bytes) (h : WFTxIn i) :
    decTxIn (encTxIn i ++ rest) = .ok (i, rest) := decTxIn_enc i rest h

theorem output_dec_enc (o : TxOut) (rest : Bytes) (h : WFTxOut o) :
    decTxOut (encTxOut o ++ rest) = .ok (o, rest) := decTxOut_enc o rest h

theorem witness_dec_enc (w : Witness) (rest : Bytes) (h : WFWitness w) :
    decWitness (encWitness w ++ rest) = .ok (w, rest) := decWitness_enc w rest h

/-- whole transactions, segwit marker/flag and witness placement included -/
theorem tx_dec_enc (tx : Tx) (rest : Bytes) (h : WFTx tx) :
    ∃ bs, encTx tx true = .ok bs ∧ decTx (bs ++ rest) = .ok (tx, rest) := decTx_encTx tx rest h

/-- the witness-stripped form decodes to the transaction without its witnesses -/
theorem tx_dec_enc_nowit (tx : Tx) (rest : Bytes) (h : WFTx tx) :
    ∃ bs, encTx tx false = .ok bs ∧ decTx (bs ++ rest) = .ok ({ tx with witnesses := none }, rest) :=
  ⟨_, encTx_false (canSerialize_of_WF tx h), decTx_txBytes _ rest (WF_strip h)⟩

/-- re-encoding what was decoded from canonical bytes reproduces the bytes -/
theorem tx_enc_dec_canonical (tx' tx : Tx) (bs enc rest : Bytes) (h : WFTx tx')
    (hc : encTx tx' true = .ok enc) (hbs : bs = enc ++ rest) (hd : decTx bs = .ok (tx, rest)) :
    encTx tx true = .ok enc := by
  rw [hbs, decTx_of_encTx tx' rest h hc] at hd
  cases hd
  exact hc

theorem header_dec_enc (h : Header) (rest : Bytes) (hw : WFHeader h) :
    decHeader (encHeader h ++ rest) = .ok (h, rest) := decHeader_enc h rest hw

theorem header_length (h : Header) (hw : WFHeader h) : (encHeader h).length = 80 :=
  encHeader_length h hw

theorem block_dec_enc (b : Block) (rest : Bytes) (h : WFBlock b) :
    ∃ bs, encBlock b = .ok bs ∧ decBlock (bs ++ rest) = .ok (b, rest) :=
  ⟨_, encBlock_of_WF h, decBlock_blockBytes b rest h⟩

/-- streams: `k` transactions written back to back are read back one after the other and the
    following bytes stay unread -/
theorem stream_exact (txs : List Tx) (rest : Bytes) (h : ∀ t ∈ txs, WFTx t) :
    ∃ bs, encTxs txs = .ok bs ∧ readMany decTx txs.length (bs ++ rest) = .ok (txs, rest) :=
  ⟨_, encTxs_of_WF h, readMany_enc decTx_txBytes txs h rest⟩

/-- a decoded value determines the bytes consumed: two well-formed transactions that decode from
    the same stream position are the same transaction and consume the same bytes -/
theorem tx_prefix_unique (a b : Tx) (ha : WFTx a) (hb : WFTx b) (ea eb ra rb : Bytes)
    (hea : encTx a true = .ok ea) (heb : encTx b true = .ok eb) (h : ea ++ ra = eb ++ rb) :
    a = b ∧ ea = eb ∧ ra = rb := by
  have hd := decTx_of_encTx a ra ha hea
  rw [h, decTx_of_encTx b rb hb heb] at hd
  cases hd
  exact ⟨rfl, Outcome.ok.inj (hea.symm.trans heb), rfl⟩

/-- distinct well-formed transactions have distinct encodings (so identifiers are unique up to
    hash collisions): the encoder is injective on the domain -/
theorem tx_enc_injective (a b : Tx) (ha : WFTx a) (hb : WFTx b) (bs : Bytes)
    (hea : encTx a true = .ok bs) (heb : encTx b true = .ok bs) : a = b :=
  (tx_prefix_unique a b ha hb bs bs [] [] hea heb rfl).1

theorem tx_dec_no_panic (bs : Bytes) : decTx bs ≠ .panic := noPanic_decTx bs

/-! ### the reference grammar (Spec/Wire.lean): "the same fields an independent reference parser returns"

  `Spec.Wire.IsTx tx bs` says, in the words of the protocol documentation and with no reference to
  the modelled encoder, decoder, their guards or the library's limits, that `bs` is the canonical
  wire form of `tx`. The theorems below say that, on the library's domain, the encoder emits
  exactly the grammar's string, the decoder returns exactly the grammar's fields for it and leaves
  what follows unread, and that the grammar assigns one value to a string. -/

open BtcVerif.Spec.Wire in
/-- the encoder emits the grammar's string and nothing else -/
theorem spec_encoder_agrees (tx : Tx) (h : WFTx tx) (bs : Bytes) :
    IsTx tx bs ↔ encTx tx true = .ok bs := by
  rw [Proofs.WireSpec.IsTx_iff, encTx_of_WF h, and_iff_right (Proofs.WireSpec.RTx_of_WF h), Outcome.ok.injEq]
  exact eq_comm

open BtcVerif.Spec.Wire in
/-- same for the witness-stripped form -/
theorem spec_encoder_agrees_stripped (tx : Tx) (h : WFTx tx) (bs : Bytes) :
    IsTxStripped tx bs ↔ encTx tx false = .ok bs := by
  rw [IsTxStripped, Proofs.WireSpec.IsTx_iff, encTx_false (canSerialize_of_WF tx h),
    and_iff_right (Proofs.WireSpec.RTx_of_WF (WF_strip h)), Outcome.ok.injEq]
  exact eq_comm

open BtcVerif.Spec.Wire in
/-- for every string of the canonical wire format (of a transaction inside the library's limits)
    followed by arbitrary bytes, the decoder returns the fields the grammar assigns to it and leaves
    the following bytes unread -/
theorem spec_decoder_agrees (tx : Tx) (h : WFTx tx) (bs rest : Bytes) (hs : IsTx tx bs) :
    decTx (bs ++ rest) = .ok (tx, rest) :=
  decTx_of_encTx tx rest h ((spec_encoder_agrees tx h bs).mp hs)

open BtcVerif.Spec.Wire in
/-- whatever the decoder returns on a canonical string re-encodes to that string, byte for byte -/
theorem spec_reencode (tx tx' : Tx) (h : WFTx tx) (bs rest rest' : Bytes) (hs : IsTx tx bs)
    (hd : decTx (bs ++ rest) = .ok (tx', rest')) : tx' = tx ∧ rest' = rest ∧ encTx tx' true = .ok bs := by
  rw [spec_decoder_agrees tx h bs rest hs] at hd
  cases hd
  exact ⟨rfl, rfl, (spec_encoder_agrees _ h bs).mp hs⟩

open BtcVerif.Spec.Wire in
/-- the grammar is unambiguous and prefix-free on the domain: a stream position determines the
    transaction and the bytes it occupies -/
theorem spec_unambiguous (a b : Tx) (ha : WFTx a) (hb : WFTx b) (ea eb ra rb : Bytes)
    (hea : IsTx a ea) (heb : IsTx b eb) (h : ea ++ ra = eb ++ rb) : a = b ∧ ea = eb ∧ ra = rb :=
  tx_prefix_unique a b ha hb ea eb ra rb ((spec_encoder_agrees a ha ea).mp hea)
    ((spec_encoder_agrees b hb eb).mp heb) h

open BtcVerif.Spec.Wire in
/-- blocks: encoder and decoder against the grammar -/
theorem spec_block_agrees (b : Block) (h : WFBlock b) (bs rest : Bytes) :
    (IsBlock b bs ↔ encBlock b = .ok bs) ∧ (IsBlock b bs → decBlock (bs ++ rest) = .ok (b, rest)) := by
  have hiff : IsBlock b bs ↔ encBlock b = .ok bs := by
    rw [Proofs.WireSpec.IsBlock_iff, encBlock_of_WF h, Outcome.ok.injEq, and_iff_right
      ⟨h.1, Nat.lt_of_le_of_lt h.2.1 (by decide), fun t ht => Proofs.WireSpec.RTx_of_WF (h.2.2 t ht)⟩]
    exact eq_comm
  refine ⟨hiff, fun hs => ?_⟩
  cases (encBlock_of_WF h).symm.trans (hiff.mp hs)
  exact decBlock_blockBytes b rest h

open BtcVerif.Spec.Wire in
/-- compact sizes, headers, inputs, outputs and witness stacks against the grammar -/
theorem spec_parts_agree :
    (∀ v bs, CompactSize v bs ↔ v < 2 ^ 64 ∧ bs = encVarint v) ∧
    (∀ h bs, IsHeader h bs ↔ WFHeader h ∧ bs = encHeader h) ∧
    (∀ i bs, IsTxIn i bs → WFTxIn i → bs = encTxIn i) ∧
    (∀ o bs, IsTxOut o bs → bs = encTxOut o) ∧
    (∀ w bs, IsWitnessStack w bs → bs = encWitness w) :=
  ⟨fun _ _ => Proofs.WireSpec.CompactSize_iff, Proofs.WireSpec.IsHeader_iff,
   fun i bs h _ => ((Proofs.WireSpec.IsTxIn_iff i bs).mp h).2,
   fun o bs h => ((Proofs.WireSpec.IsTxOut_iff o bs).mp h).2,
   fun w bs h => ((Proofs.WireSpec.IsWitnessStack_iff w bs).mp h).2⟩

/-- non-vacuity of the grammar: the one-byte and three-byte compact sizes, derived from the rules -/
example : Spec.Wire.CompactSize 252 [0xfc] ∧ Spec.Wire.CompactSize 253 [0xfd, 0xfd, 0x00] :=
  ⟨.u8 (by decide) (by decide),
   .u16 (by decide) (by decide) (.succ 0xfd (.succ 0x00 .zero))⟩

/-! non-vacuity: a concrete segwit transaction with two inputs satisfies `WFTx` -/
def sampleTx : Tx :=
  { version := 2,
    inputs := [⟨⟨List.replicate 32 0xaa, 1⟩, [0x51], 0xffffffff⟩, ⟨⟨List.replicate 32 0xbb, 0⟩, [], 0⟩],
    outputs := [⟨5000000000, [0x6a]⟩],
    witnesses := some [[[1, 2, 3], []], []],
    locktime := 0 }

example : WFTx sampleTx := by
  simp [WFTx, sampleTx, WFTxIn, WFPrevOut, WFTxOut, WFWitness, witBytes]

end BtcVerif.Props.C01
