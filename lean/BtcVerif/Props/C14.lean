/-
  C14 — BIP39 mnemonics round-trip, detect corruption and derive the standard seed.

  `encodeW`/`decodeW` are the models of `bip39.EncodeToWords`/`bip39.DecodeWords` over the word list
  regenerated from wordlist.go, for an ARBITRARY checksum-byte function `csByte`
  (`sha256.Sum256(entropy)[0]` in the code): no property of SHA-256 is used.  Words are byte strings;
  the library compares them exactly (no case folding, trimming or normalisation), so do the models.

  Ties to the source re-checked on every run: the word list (`wordlist_is_pinned_copy`), the guards of
  `ValidateEntropySize`/`DecodeWords` (`Gen/Guards.lean`), the seed constants.
-/
import BtcVerif.Props.GuardPins.P_bip39
import BtcVerif.Proofs.Bip39
import BtcVerif.Proofs.Bip39WordList
import BtcVerif.Proofs.Bip39Reference

namespace BtcVerif.Props.C14
open BtcVerif BtcVerif.Model.Bip39 BtcVerif.Proofs.Bip39

/-- `EncodeToWords` over the source's word list -/
abbrev encodeW (csByte : Bytes → UInt8) (e : Bytes) : Outcome (List Bytes) := encode wordList csByte e
/-- `DecodeWords` over the map `init` builds from the source's word list -/
abbrev decodeW (csByte : Bytes → UInt8) (ws : List Bytes) : Outcome Bytes :=
  decode (wordMapOf wordList) csByte ws

/-- the list regenerated from wordlist.go equals the copy pinned by the SHA-256 of english.txt -/
theorem wordlist_is_pinned_copy : BtcVerif.Gen.bip39_WordList = Spec.Bip39.wordList :=
  gen_wordList_eq_spec

theorem wordlist_2048_distinct : wordList.length = 2048 ∧ wordList.Nodup :=
  ⟨wordList_length, wordList_nodup⟩

/-- no word contains the separator `DeriveSeed` joins the words with -/
theorem wordlist_no_space : ∀ w ∈ wordList, (0x20 : UInt8) ∉ w :=
  fun w hw => no_space_of_lowerCase (wordList_lowerCase w hw)

/-- every entropy of 16/20/24/28/32 bytes encodes to 12/15/18/21/24 words that decode back to it -/
theorem bip39_dec_enc (csByte : Bytes → UInt8) (e : Bytes) (hv : ValidLen e.length) :
    ∃ ws, encodeW csByte e = .ok ws ∧ ws.length = e.length * 3 / 4 ∧ decodeW csByte ws = .ok e := by
  obtain ⟨ws, h⟩ := encode_total wordList wordList_length csByte e hv
  exact ⟨ws, h, (encode_ok_length h).2,
    (accepts_iff wordList wordList_length wordList_nodup csByte e ws).mpr h⟩

theorem encode_refuses_other_sizes (csByte : Bytes → UInt8) (e : Bytes) (hv : ¬ ValidLen e.length) :
    encodeW csByte e = .err := by rw [encodeW, encode_eq, if_neg hv]

/-- `DecodeWords` accepts a word list exactly when it is the encoding of the entropy it returns
    (which then has a valid size) -/
theorem bip39_accepts_iff (csByte : Bytes → UInt8) (ws : List Bytes) (e : Bytes) :
    decodeW csByte ws = .ok e ↔ ValidLen e.length ∧ encodeW csByte e = .ok ws := by
  have hiff := accepts_iff wordList wordList_length wordList_nodup csByte e ws
  exact ⟨fun h => ⟨((decode_ok_iff _ _ _ _).mp h).1, hiff.mp h⟩, fun h => hiff.mpr h.2⟩

/-- what acceptance means, spelled out: 12/15/18/21/24 words, each of them in the list at the
    position given by an 11-bit group of `entropy ‖ checksum`, where the checksum is the top
    `len/4` bits of the checksum byte -/
theorem bip39_accepted_shape (csByte : Bytes → UInt8) (ws : List Bytes) (e : Bytes)
    (h : decodeW csByte ws = .ok e) :
    ValidCount ws.length ∧ ValidLen e.length ∧ ws.length = e.length * 3 / 4 ∧
    (∀ w ∈ ws, w ∈ wordList) ∧
    ∃ is, All₂ (fun i w => wordList[i]? = some w) is ws ∧
      is = indices ws.length
        (bytesToNat e * 2 ^ (e.length / 4) + (csByte e).toNat >>> (8 - e.length / 4)) := by
  obtain ⟨hc, hv, hlen, hmem, hall⟩ :=
    decode_ok_shape wordList wordList_length wordList_nodup csByte ws e h
  exact ⟨hc, hv, hlen, hmem, _, hall, rfl⟩

/-- two different word lists never decode to the same entropy: any change of an accepted mnemonic
    (a substituted, dropped, added, re-cased word) is rejected or yields different entropy -/
theorem bip39_decode_injective (csByte : Bytes → UInt8) (ws ws' : List Bytes) (e : Bytes)
    (h : decodeW csByte ws = .ok e) (h' : decodeW csByte ws' = .ok e) : ws = ws' := by
  have h1 := ((bip39_accepts_iff csByte ws e).mp h).2
  have h2 := ((bip39_accepts_iff csByte ws' e).mp h').2
  rw [h1] at h2; injection h2

/-- a word that is not in the list (wrong case, extra white space, misspelt) is rejected -/
theorem bip39_unknown_word_rejected (csByte : Bytes → UInt8) (ws : List Bytes) (w : Bytes)
    (hw : w ∈ ws) (hn : w ∉ wordList) : decodeW csByte ws = .err := by
  cases hd : decodeW csByte ws with
  | ok e => exact absurd ((bip39_accepted_shape csByte ws e hd).2.2.2.1 w hw) hn
  | err => rfl
  | panic => exact absurd hd (decode_ne_panic wordList wordList_length csByte ws)

theorem bip39_wrong_count_rejected (csByte : Bytes → UInt8) (ws : List Bytes)
    (hc : ¬ ValidCount ws.length) : decodeW csByte ws = .err := by
  rw [decodeW, decode_eq, if_neg hc]

theorem bip39_no_panic (csByte : Bytes → UInt8) (e : Bytes) (ws : List Bytes) :
    encodeW csByte e ≠ .panic ∧ decodeW csByte ws ≠ .panic :=
  ⟨encode_ne_panic wordList wordList_length csByte e,
   decode_ne_panic wordList wordList_length csByte ws⟩

/-- acceptance for ANY list of 2048 distinct words (nothing depends on English) -/
theorem bip39_accepts_iff_any_wordlist (wl : List Bytes) (hlen : wl.length = 2048) (hnd : wl.Nodup)
    (csByte : Bytes → UInt8) (ws : List Bytes) (e : Bytes) :
    decode (wordMapOf wl) csByte ws = .ok e ↔ encode wl csByte e = .ok ws :=
  accepts_iff wl hlen hnd csByte e ws

/-- the instances the oracle runs (checksum byte = first byte of `Prim.sha256`) -/
theorem bip39_go_instance (ws : List Bytes) (e : Bytes) :
    decodeGo ws = .ok e ↔ ValidLen e.length ∧ encodeGo e = .ok ws :=
  bip39_accepts_iff sha256First ws e

/-- **the mnemonic equals the BIP39 reference encoding.** For every hash function `sha256` with
    32-byte output (the checksum byte being its first byte, as in the code), `EncodeToWords` returns
    exactly the words the standard defines bit by bit — ENT ‖ first ENT/32 bits of `sha256(ENT)`,
    groups of 11 bits, each an index into the word list — and refuses exactly the other sizes.
    (For the instance the oracle runs, `csOf Prim.sha256 = sha256First` by `rfl`; that `Prim.sha256`
    returns 32 bytes is not proved — `Prim/` is executable code — so the oracle additionally compares
    model and `Spec.Bip39.encode` on every `bip39.enc` case.) -/
theorem bip39_enc_eq_reference (sha256 : Bytes → Bytes) (hsha : ∀ x, (sha256 x).length = 32)
    (e : Bytes) (ws : List Bytes) :
    encodeW (csOf sha256) e = .ok ws ↔ Spec.Bip39.encode wordList sha256 e = some ws :=
  encode_eq_reference wordList sha256 hsha e ws

/-- a hash function satisfying the hypothesis, and the instance of the code -/
example : ∀ x : Bytes, ((fun _ => List.replicate 32 (0xab : UInt8)) x).length = 32 := by
  intro _; simp
example : sha256First = csOf Prim.sha256 := rfl

/-- `GenerateMnemonic(rand, n)` (for `n` whose product with 32 fits Go's `int`) succeeds only for
    12/15/18/21/24 words; it then returns `n` words and has consumed `4n/3` bytes of `rand` -/
theorem generateMnemonic_sizes (csByte : Bytes → UInt8) (rand : Bytes) (n : Nat)
    (hn : n < 288230376151711744) (ws : List Bytes)
    (h : generateMnemonic wordList csByte rand (n : Int) = .ok ws) :
    ValidCount n ∧ ws.length = n ∧ n * 4 / 3 ≤ rand.length :=
  generateMnemonic_ok wordList csByte rand n hn ws h

/-- and for those counts it succeeds whenever the reader delivers enough bytes; the result decodes
    to exactly the bytes read -/
theorem generateMnemonic_valid (csByte : Bytes → UInt8) (rand : Bytes) (n : Nat) (hc : ValidCount n)
    (hr : n * 4 / 3 ≤ rand.length) :
    ∃ ws, generateMnemonic wordList csByte rand (n : Int) = .ok ws ∧ ws.length = n ∧
      decodeW csByte ws = .ok (rand.take (n * 4 / 3)) :=
  generateMnemonic_succeeds wordList wordList_length wordList_nodup csByte rand n hc hr

/-- `DeriveSeed(words, passphrase)` = PBKDF2(password = `joinWords ws` (the model of
    `strings.Join(words, " ")`), salt = "mnemonic" ‖ passphrase, 2048 iterations, 64 bytes) for
    whatever PBKDF2 function is plugged in; no normalisation of either string.  What is compared with
    the specification is the salt prefix, the iteration count and the key length. -/
theorem bip39_seed_eq_reference (pbkdf2 : Bytes → Bytes → Nat → Nat → Bytes) (ws : List Bytes)
    (pass : Bytes) :
    deriveSeed pbkdf2 ws pass = Spec.Bip39.seed pbkdf2 (joinWords ws) pass := by
  rw [deriveSeed, saltPrefix_eq]
  rfl

example : ValidLen (List.replicate 16 (0 : UInt8)).length := by decide
example : ValidLen (List.replicate 32 (0xff : UInt8)).length := by decide
example : ¬ ValidLen (List.replicate 17 (0 : UInt8)).length := by decide
example : ValidCount 12 ∧ ValidCount 24 ∧ ¬ ValidCount 13 := by decide

end BtcVerif.Props.C14
