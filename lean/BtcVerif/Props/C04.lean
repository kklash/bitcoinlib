/-
  C04 — every signature the library produces is valid, canonical and deterministic.

  Property theorems (helpers: `Proofs/ECCGroup.lean`, `Proofs/ECCSigner.lean`).
  The signing model (`Model/ECC.lean`: `signECDSA`, `signSchnorr`, `signSigHash`) mirrors
  `ecc.SignECDSA` + `ekliptic.SignECDSA`, `ecc.SignSchnorr`, `signer.SignSigHash` over the curve
  record `C : CurveOps` and the record `S : SigOps` of hash-based functions (RFC 6979 nonce, the
  three BIP340 tagged hashes), which are UNINTERPRETED here: every theorem holds for any nonce
  function and any hash functions. "Deterministic" is then immediate (the model is a function of
  key, digest and aux), and "equals the RFC 6979 / BIP340 reference signature" is established by
  the differential run against the independent `Prim.RFC6979` / `Prim.ECDSA` / `Prim.BIP340`
  implementations on every generated case (residue stated in DESIGN.md §7 C04).
  Hypotheses (`CurveAbs`) are structure arguments, satisfiable (`Proofs/CurveAbsToy.lean`).
-/
import BtcVerif.Props.GuardPins.P_signer
import BtcVerif.Props.GuardPins.P_der
import BtcVerif.Props.GuardPins.P_ecc
import BtcVerif.Proofs.ECCGroup
import BtcVerif.Proofs.ECCSigner
import BtcVerif.Proofs.CurveAbsToy

namespace BtcVerif.Props.C04
open BtcVerif BtcVerif.Model BtcVerif.Model.ECC BtcVerif.Proofs BtcVerif.Proofs.ECC BtcVerif.Model.Signer

variable {C : CurveOps}

/-- every ECDSA signature produced verifies under the matching public key (either encoding).
    `r ≠ 0`, `s ≠ 0`: `ekliptic.SignECDSA` does not re-draw the nonce on these 2^-256 events; the
    predicates are decidable and the harness checks them on every produced signature. -/
theorem ecdsa_sign_verify (H : CurveAbs C) {S : SigOps} {priv hash pub : Bytes} {r s : Nat}
    (hsig : signECDSA C S priv hash = .ok (r, s)) (hr0 : r ≠ 0) (hs0 : s ≠ 0)
    (hpub : getPublicKeyCompressed C priv = .ok pub ∨ getPublicKeyUncompressed C priv = .ok pub) :
    verifyECDSA C pub hash r s = .ok true := ECC.ecdsa_sign_verify H hsig hr0 hs0 hpub

/-- every ECDSA signature produced has `s ≤ n/2` and both components below `n` — hypothesis-free -/
theorem lowS {S : SigOps} {priv hash : Bytes} {r s : Nat} (hsig : signECDSA C S priv hash = .ok (r, s)) :
    s ≤ C.n / 2 ∧ r < C.n ∧ s < C.n := signECDSA_lowS hsig

/-- signing succeeds (no panic) for every valid key, 32-byte digest and in-range nonce -/
theorem ecdsa_sign_total (H : CurveAbs C) (S : SigOps) (priv hash : Bytes) (hp : priv.length = 32)
    (hh : hash.length = 32) (hd : isValidScalar C (beNat priv) = true)
    (hk : isValidScalar C (S.nonce (beNat priv) hash) = true) :
    ∃ r s, signECDSA C S priv hash = .ok (r, s) := by
  obtain ⟨_, hdn⟩ := (isValidScalar_iff _).mp hd
  rw [signECDSA_eq, if_neg (by omega)]
  unfold eklipticSign
  rw [hk, hd, (mulBase_valid H hk).1]
  exact ⟨_, _, rfl⟩

/-- the encoded form: BIP66 strict DER, 9..73 bytes, the requested hash-type byte appended, and it
    decodes to exactly the produced `(r, s)` -/
theorem der_of_sig (hn2 : C.n ≤ 2 ^ 256) (S : SigOps) (hash priv : Bytes) (ht r s : Nat)
    (hsig : signECDSA C S priv hash = .ok (r, s)) (hht : ht < 256) :
    ∃ out, signSigHash C S hash priv ht = .ok out ∧ Spec.bip66 out = true ∧
      Model.DER.decode out = .ok ⟨r, s, ht⟩ ∧ out.getLast? = some (UInt8.ofNat ht) ∧
      9 ≤ out.length ∧ out.length ≤ 73 := by
  obtain ⟨_, hrn, hsn⟩ := signECDSA_lowS hsig
  have hr : r < 2 ^ 256 := by omega
  have hs : s < 2 ^ 256 := by omega
  obtain ⟨hv, hdec, h9, h73⟩ := Model.DER.decode_frame_content hr hs (show ht ≤ 255 by omega)
  refine ⟨_, signSigHash_eq_ok.mpr ⟨r, s, hsig, Model.DER.encode_nat_ok hr hs (by omega)⟩, (Model.DER.bip66_iff_valid _).mpr hv,
    hdec, ?_, h9, h73⟩
  rw [frame_getLast, Model.DER.byteOf, Nat.mod_eq_of_lt hht]

/-- every Schnorr signature produced verifies under the signer's x-only key (the even-Y negations
    of `d` and `k` included) -/
theorem schnorr_sign_verify (H : CurveAbs C) {S : SigOps} {priv msg aux sig pub : Bytes}
    (hsig : signSchnorr C S priv msg aux = .ok sig) (hpub : getPublicKeySchnorr C priv = .ok pub) :
    verifySchnorr C S pub msg sig = .ok true := ECC.schnorr_sign_verify H hsig hpub

/-- a produced Schnorr signature is 64 bytes: `x(R) ‖ s`, each half written by `FillBytes` into 32 bytes -/
theorem schnorr_sig_form (H : CurveAbs C) {S : SigOps} {priv msg aux sig : Bytes}
    (hsig : signSchnorr C S priv msg aux = .ok sig) :
    sig.length = 64 := by
  obtain ⟨_, _, k0, _, _, rfl⟩ := signSchnorr_inv H hsig
  rw [List.length_append, beBytes_length, beBytes_length]

/-! ### transaction-signing helpers (model: `Proofs/ECCSigner.lean`)

  `Hh : HashOps` holds the two signature-hash functions and HASH160, uninterpreted: the statements
  name the digest that is signed — the legacy / BIP143 hash of the PRE-state `tx` at the designated
  input with the P2PKH script code of the key (correctness of those hashes is C03). -/

/-- P2PKH (compressed and uncompressed): the input index is in range, version / outputs / locktime /
    witnesses and every other input are unchanged, the designated input keeps its outpoint and
    sequence, and its scriptSig is `push(sig) ‖ push(pub)` with `sig = SignSigHash(legacy(tx, n,
    P2PKH(pub), ht), priv, ht)` -/
theorem signP2PKH_frame_form {S : SigOps} {Hh : HashOps} {tx tx' : Tx} {nInput : Int} {priv : Bytes} {ht : Nat}
    {compressed : Bool} (h : signInputP2PKH C S Hh tx nInput priv ht compressed = .ok tx') :
    0 ≤ nInput ∧ nInput.toNat < tx.inputs.length ∧
    tx'.version = tx.version ∧ tx'.outputs = tx.outputs ∧ tx'.locktime = tx.locktime ∧
    tx'.witnesses = tx.witnesses ∧ InputsFrame tx.inputs tx'.inputs nInput.toNat ∧
    ∃ pub sc dig sig ps pp,
      getPublicKey C priv compressed = .ok pub ∧ makeP2PKHFromPublicKey Hh.hash160 pub = .ok sc ∧
      Hh.legacy tx nInput.toNat sc ht = .ok dig ∧ signSigHash C S dig priv ht = .ok sig ∧
      pushData sig = .ok ps ∧ pushData pub = .ok pp ∧
      ∀ a, tx.inputs[nInput.toNat]? = some a → tx'.inputs[nInput.toNat]? = some { a with script := ps ++ pp } := by
  obtain ⟨⟨h0, hr⟩, pub, sc, dig, sig, ps, pp, h1, h2, h3, h4, h5, h6, rfl⟩ := signInputP2PKH_inv h
  exact ⟨h0, hr, rfl, rfl, rfl, rfl, setScript_frame _ _ _, pub, sc, dig, sig, ps, pp, h1, h2, h3, h4, h5, h6,
    setScript_at _ _ _⟩

/-- P2WPKH: as above with an emptied scriptSig and the witness `[sig, pub]`; the witness list covers
    every input and every other witness is kept (`witness_frame`) -/
theorem signP2WPKH_frame_form {S : SigOps} {Hh : HashOps} {tx tx' : Tx} {nInput : Int} {priv : Bytes}
    {ht value : Nat} (h : signInputP2WPKH C S Hh tx nInput priv ht value = .ok tx') :
    0 ≤ nInput ∧ nInput.toNat < tx.inputs.length ∧
    tx'.version = tx.version ∧ tx'.outputs = tx.outputs ∧ tx'.locktime = tx.locktime ∧
    InputsFrame tx.inputs tx'.inputs nInput.toNat ∧
    ∃ pub sc dig sig ws,
      getPublicKeyCompressed C priv = .ok pub ∧ makeP2PKHFromPublicKey Hh.hash160 pub = .ok sc ∧
      Hh.bip143 tx nInput.toNat sc ht value = .ok dig ∧ signSigHash C S dig priv ht = .ok sig ∧
      installWitness tx nInput.toNat [sig, pub] = .ok ws ∧ tx'.witnesses = some ws ∧
      ∀ a, tx.inputs[nInput.toNat]? = some a → tx'.inputs[nInput.toNat]? = some { a with script := [] } := by
  obtain ⟨⟨h0, hr⟩, pub, sc, dig, sig, ws, h1, h2, h3, h4, h5, rfl⟩ := signInputP2WPKH_inv h
  exact ⟨h0, hr, rfl, rfl, rfl, setScript_frame _ _ _, pub, sc, dig, sig, ws, h1, h2, h3, h4, h5, rfl,
    setScript_at _ _ _⟩

/-- P2SH-nested P2WPKH: as P2WPKH with scriptSig = push(`00 14 hash160(pub)`) -/
theorem signNested_frame_form {S : SigOps} {Hh : HashOps} {tx tx' : Tx} {nInput : Int} {priv : Bytes}
    {ht value : Nat} (h : signInputNested C S Hh tx nInput priv ht value = .ok tx') :
    0 ≤ nInput ∧ nInput.toNat < tx.inputs.length ∧
    tx'.version = tx.version ∧ tx'.outputs = tx.outputs ∧ tx'.locktime = tx.locktime ∧
    InputsFrame tx.inputs tx'.inputs nInput.toNat ∧
    ∃ pub sc dig sig ws prog redeem,
      getPublicKeyCompressed C priv = .ok pub ∧ makeP2PKH (Hh.hash160 pub) = .ok sc ∧
      Hh.bip143 tx nInput.toNat sc ht value = .ok dig ∧ signSigHash C S dig priv ht = .ok sig ∧
      installWitness tx nInput.toNat [sig, pub] = .ok ws ∧ tx'.witnesses = some ws ∧
      makeP2WPKH (Hh.hash160 pub) = .ok prog ∧ pushData prog = .ok redeem ∧
      ∀ a, tx.inputs[nInput.toNat]? = some a → tx'.inputs[nInput.toNat]? = some { a with script := redeem } := by
  obtain ⟨⟨h0, hr⟩, pub, sc, dig, sig, ws, prog, redeem, h1, h2, h3, h4, h5, h6, h7, rfl⟩ :=
    signInputNested_inv h
  exact ⟨h0, hr, rfl, rfl, rfl, setScript_frame _ _ _, pub, sc, dig, sig, ws, prog, redeem, h1, h2, h3, h4, h5,
    rfl, h6, h7, setScript_at _ _ _⟩

/-- the witness list after segwit signing: at least one per input (exactly one when the transaction was
    well-formed, `WF_installWitness`), `[sig, pub]` at the designated input, every
    other input's witness as before (empty when the transaction had no witnesses) -/
theorem witness_frame {tx : Tx} {n : Nat} {w : Witness} {ws : List Witness}
    (h : installWitness tx n w = .ok ws) (hn : n < tx.inputs.length) :
    tx.inputs.length ≤ ws.length ∧ ws[n]? = some w ∧
      ∀ i, i ≠ n → ws[i]? = (match tx.witnesses with
                              | none => if i < tx.inputs.length then some [] else none
                              | some old => old[i]?) := by
  obtain ⟨hl, rfl⟩ := installWitness_eq_ok.mp h
  refine ⟨by rw [List.length_set]; exact hl, List.getElem?_set_self (by omega), fun i hi => ?_⟩
  rw [List.getElem?_set_ne (Ne.symm hi)]
  cases tx.witnesses with
  | none => exact List.getElem?_replicate
  | some old => rfl

/-- signing a well-formed transaction (C01's domain) gives a well-formed transaction, which
    serialises and re-parses to itself (by C01), leaving following bytes unread -/
theorem signed_reparses_p2pkh (hn2 : C.n ≤ 2 ^ 256) {S : SigOps} {Hh : HashOps} {tx tx' : Tx} {nInput : Int}
    {priv : Bytes} {ht : Nat} {compressed : Bool} (hwf : WFTx tx)
    (h : signInputP2PKH C S Hh tx nInput priv ht compressed = .ok tx') (rest : Bytes) :
    WFTx tx' ∧ ∃ bs, encTx tx' true = .ok bs ∧ decTx (bs ++ rest) = .ok (tx', rest) := by
  obtain ⟨_, pub, sc, dig, sig, ps, pp, h1, _, _, h4, h5, h6, rfl⟩ := signInputP2PKH_inv h
  have l1 := signSigHash_length hn2 h4
  have l2 := getPublicKey_length h1
  have l3 := pushData_length h5
  have l4 := pushData_length h6
  exact signed_reparses hwf nInput.toNat (sc := ps ++ pp) (by rw [List.length_append]; omega) tx.witnesses
    hwf.witnesses_wf rest

theorem signed_reparses_p2wpkh (hn2 : C.n ≤ 2 ^ 256) {S : SigOps} {Hh : HashOps} {tx tx' : Tx} {nInput : Int}
    {priv : Bytes} {ht value : Nat} (hwf : WFTx tx)
    (h : signInputP2WPKH C S Hh tx nInput priv ht value = .ok tx') (rest : Bytes) :
    WFTx tx' ∧ ∃ bs, encTx tx' true = .ok bs ∧ decTx (bs ++ rest) = .ok (tx', rest) := by
  obtain ⟨_, pub, sc, dig, sig, ws, h1, _, _, h4, h5, rfl⟩ := signInputP2WPKH_inv h
  exact signed_reparses_segwit hwf h5 (signSigHash_length hn2 h4) (getPublicKeyCompressed_length h1)
    (Nat.zero_le _) rest

/-- the bound on `hash160` (20 bytes in the Go code) only has to keep the pushed redeem script within
    `WFTxIn`'s 1 000 000-byte script limit: 999 000 leaves room for the version byte and two push
    headers -/
theorem signed_reparses_nested (hn2 : C.n ≤ 2 ^ 256) {S : SigOps} {Hh : HashOps}
    (hh : ∀ b, (Hh.hash160 b).length ≤ 999000) {tx tx' : Tx} {nInput : Int}
    {priv : Bytes} {ht value : Nat} (hwf : WFTx tx)
    (h : signInputNested C S Hh tx nInput priv ht value = .ok tx') (rest : Bytes) :
    WFTx tx' ∧ ∃ bs, encTx tx' true = .ok bs ∧ decTx (bs ++ rest) = .ok (tx', rest) := by
  obtain ⟨_, pub, sc, dig, sig, ws, prog, redeem, h1, _, _, h4, h5, h6, h7, rfl⟩ := signInputNested_inv h
  have l3 := makeP2WPKH_length h6
  have l4 := pushData_length h7
  have l5 := hh pub
  exact signed_reparses_segwit hwf h5 (signSigHash_length hn2 h4) (getPublicKeyCompressed_length h1)
    (by omega) rest

/-! ### non-vacuity -/

example : CurveAbs Toy.ops := Toy.curveAbs

/-- a concrete signature on the toy curve (constant nonce 7): d = 5, z = 9 -/
example : signECDSA Toy.ops ⟨fun _ _ => 7, id, id, id⟩ (List.replicate 31 0 ++ [5]) (List.replicate 31 0 ++ [9])
    = .ok (25, 3) := by decide +kernel

/-- … and it verifies under the compressed public key `02 ‖ x(5·G)`, as `ecdsa_sign_verify` says -/
example : verifyECDSA Toy.ops (Spec.ECC.encodeCompressed (Toy.tbl 5)) (List.replicate 31 0 ++ [9]) 25 3 = .ok true := by
  decide +kernel

/-- constant digest for the examples below: the signing helpers succeed on a concrete two-input transaction
    over the toy curve, so the hypotheses `… = .ok tx'` of the frame theorems are satisfiable -/
def toyHash : HashOps :=
  ⟨fun _ _ _ _ => .ok (List.replicate 31 0 ++ [9]), fun _ _ _ _ _ => .ok (List.replicate 31 0 ++ [9]),
   fun b => b.take 20⟩

def toyTx : Tx :=
  { version := 2,
    inputs := [⟨⟨List.replicate 32 0xaa, 1⟩, [0x51], 0xffffffff⟩, ⟨⟨List.replicate 32 0xbb, 0⟩, [], 0⟩],
    outputs := [⟨5000, [0x6a]⟩], witnesses := none, locktime := 0 }

example : (signInputP2PKH Toy.ops ⟨fun _ _ => 7, id, id, id⟩ toyHash toyTx 1 (List.replicate 31 0 ++ [5]) 1 true).isOk
    = true := by decide +kernel
example : (signInputP2WPKH Toy.ops ⟨fun _ _ => 7, id, id, id⟩ toyHash toyTx 0 (List.replicate 31 0 ++ [5]) 1 1000).isOk
    = true := by decide +kernel
example : (signInputNested Toy.ops ⟨fun _ _ => 7, id, id, id⟩ toyHash toyTx 0 (List.replicate 31 0 ++ [5]) 0x81 1000).isOk
    = true := by decide +kernel
example : WFTx toyTx := by
  refine ⟨by decide, by decide, by decide, by decide, by decide, ?_, ?_, ?_⟩
  · intro i hi
    simp only [toyTx, List.mem_cons, List.not_mem_nil, or_false] at hi
    rcases hi with rfl | rfl <;> exact ⟨⟨by decide, by decide⟩, by decide, by decide⟩
  · intro o ho
    simp only [toyTx, List.mem_cons, List.not_mem_nil, or_false] at ho
    subst ho; exact ⟨by decide, by decide⟩
  · intro ws h; simp [toyTx] at h

end BtcVerif.Props.C04
