/-
  C02 — identifiers, sizes, weight and target are those of the canonical serialization.
  Identifiers are `rev ∘ dsha256 ∘ enc` by construction of the oracle (Prim.SHA256 is the independent
  implementation compared with Go on every case); the theorems below are about what is hashed and
  about every number the library reports.
-/
import BtcVerif.Props.GuardPins.P_varint
import BtcVerif.Props.GuardPins.P_blocks_merkle
import BtcVerif.Props.GuardPins.P_blocks_blockheader
import BtcVerif.Props.GuardPins.P_blocks
import BtcVerif.Props.GuardPins.P_tx
import BtcVerif.Proofs.Sizes
import BtcVerif.Proofs.Merkle
import BtcVerif.Proofs.Target

namespace BtcVerif.Props.C02
open BtcVerif BtcVerif.Model

/-- Size / SizeNoWitness = number of bytes emitted -/
theorem size_eq_length (tx : Tx) (w : Bool) (bs : Bytes)
    (hin : ∀ i ∈ tx.inputs, WFPrevOut i.prev) (he : encTx tx w = .ok bs) : sizeTx tx w = bs.length :=
  sizeTx_eq_length tx w bs hin he

theorem varint_size_eq_length (v : Nat) : varintSize v = (encVarint v).length := varintSize_eq_length v
theorem input_size_eq_length (i : TxIn) (h : WFTxIn i) : sizeTxIn i = (encTxIn i).length := sizeTxIn_eq i h.1.1
theorem output_size_eq_length (o : TxOut) : sizeTxOut o = (encTxOut o).length := sizeTxOut_eq o
theorem witness_size_eq_length (w : Witness) : sizeWitness w = (encWitness w).length := sizeWitness_eq w
theorem header_size (h : Header) (hw : WFHeader h) : (encHeader h).length = 80 := encHeader_length h hw

theorem block_size_eq_length (b : Block) (bs : Bytes) (hh : WFHeader b.header)
    (ht : ∀ t ∈ b.txs, ∀ i ∈ t.inputs, WFPrevOut i.prev) (he : encBlock b = .ok bs) :
    sizeBlock b = bs.length := by
  obtain ⟨body, hb, he⟩ := Outcome.bind_eq_ok.mp he
  cases he
  rw [sizeBlock, sizeTxs_eq_length b.txs body ht hb, List.length_append, List.length_append, encHeader_length _ hh,
    varintSize_eq_length]

theorem nowit_le (tx : Tx) : sizeTx tx false ≤ sizeTx tx true := by
  simp only [sizeTx, Gen.Guards.tx_Tx_size_0, Gen.Guards.tx_Tx_size_1, Bool.and_false, Bool.false_and,
    Bool.false_eq_true, ite_false]
  omega

/-- weight = 3 · stripped size + total size -/
theorem weight_eq (tx : Tx) : weightTx tx = 3 * sizeTx tx false + sizeTx tx true := by
  have := nowit_le tx
  simp only [weightTx]
  omega

/-- virtual size = ⌈weight / 4⌉ -/
theorem vsize_eq (tx : Tx) : 4 * vsizeTx tx ≥ weightTx tx ∧ 4 * vsizeTx tx < weightTx tx + 4 := by
  unfold vsizeTx; omega

theorem block_weight_sum (b : Block) :
    weightBlock b = 4 * (80 + varintSize b.txs.length) + (b.txs.map weightTx).sum := by
  unfold weightBlock; omega

/-- the txid preimage does not depend on the witnesses -/
theorem txid_ignores_witness (tx : Tx) (ws : Option (List Witness))
    (h1 : canSerialize tx = true) (h2 : canSerialize { tx with witnesses := ws } = true) :
    encTx { tx with witnesses := ws } false = encTx tx false := Model.txid_ignores_witness tx ws h1 h2

theorem wtxid_eq_txid_of_no_witness (tx : Tx) (h : tx.witnesses = none) :
    encTx tx true = encTx tx false := Model.wtxid_eq_txid_of_no_witness tx h

/-- the merkle root is Bitcoin's: pair nodes, duplicate the last node of an odd level — for every
    pair-hash function and every non-empty list, of any length -/
theorem merkle_eq_reference {α} (H : α → α → α) (hs : List α) (hne : hs ≠ []) :
    merkleModel H (hs.length + 1) hs = Spec.computeMerkleRoot H hs.length hs ∧
    (Spec.computeMerkleRoot H hs.length hs).isSome :=
  ⟨merkleModel_eq_spec H hs.length hs hne (Nat.le_refl _),
    computeMerkleRoot_isSome H hs.length hs hne (Nat.le_succ _)⟩

/-- nBits → target equals `SetCompact` whenever the exponent byte is ≤ 32 -/
theorem target_eq_setCompact (n : Nat) (he : n >>> 24 ≤ 32) : targetModel n = .ok (Spec.setCompact n) := by
  rw [targetModel_eq, setCompact_eq]
  split
  · rfl
  · rename_i hs
    rw [and_mask_eq n (Decidable.not_not.mp hs), if_neg (by omega : ¬ 32 < n >>> 24)]
    split <;> rfl

theorem target_lt_2_256 (n : Nat) (he : n >>> 24 ≤ 32) : Spec.setCompact n < 2 ^ 256 := by
  have hw : n &&& 0x7fffff < 2 ^ 23 := Nat.and_lt_two_pow n (by decide)
  rw [setCompact_eq]
  split
  · exact Nat.two_pow_pos 256
  · split
    · exact Nat.lt_of_le_of_lt (Nat.shiftRight_le _ _) (Nat.lt_trans hw (by decide))
    · -- a 23-bit word times at most 256 ^ 29
      calc (n &&& 0x7fffff) * 256 ^ (n >>> 24 - 3)
          < 2 ^ 23 * 256 ^ (n >>> 24 - 3) := Nat.mul_lt_mul_of_pos_right hw (Nat.pow_pos (by decide))
        _ ≤ 2 ^ 23 * 256 ^ 29 := Nat.mul_le_mul_left _ (Nat.pow_le_pow_right (by decide) (by omega))
        _ < 2 ^ 256 := by decide

/-- outside that range, with the sign bit clear, the library's contract is an explicit panic (not part of the claim) -/
theorem target_panic_contract (n : Nat) (hs : n &&& 0x800000 = 0) (he : n >>> 24 > 32) :
    targetModel n = .panic := by
  rw [targetModel_eq, if_neg (not_not_intro hs), if_neg (by omega), if_pos he]

/-! non-vacuity -/
example : (0x1d00ffff : Nat) >>> 24 ≤ 32 := by decide
example : Spec.setCompact 0x1d00ffff = 0xffff * 2 ^ 208 := by decide
example : Spec.computeMerkleRoot (fun a b : Nat => 10 * a + b) 3 [1, 2, 3] = some 153 := by decide

end BtcVerif.Props.C02
