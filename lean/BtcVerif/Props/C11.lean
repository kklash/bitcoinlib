/-
  C11 — the DER signature codec accepts exactly BIP66 strict encodings
  (lemmas in BtcVerif/Proofs/DER.lean, DERInt.lean, DEREnc.lean).

  * `decode`, `encode`, `encodeBigInt`, `checkEncodable` are the models of `der.DecodeSignature`,
    `der.EncodeSignature`, `der.EncodeBigInt`, `der.CheckEncodableBigInt` (Model/DER.lean; guards
    regenerated from the Go source, every index/slice bounds-checked, `*big.Int` = `Option Int`).
  * `Spec.bip66` is the independent transcription of BIP66's `IsValidSignatureEncoding`
    (Spec/BIP66.lean) on a signature followed by its hash-type byte.
  * `frame rb sb ht` is the byte string `30 (|rb|+|sb|+4) 02 |rb| rb 02 |sb| sb ht`.
  All statements quantify over ALL byte strings / integers; there is no size bound anywhere.
-/
import BtcVerif.Props.GuardPins.P_der
import BtcVerif.Proofs.DEREnc

namespace BtcVerif.Props.C11
open BtcVerif BtcVerif.Model.DER BtcVerif.Spec

/-- no byte string makes the decoder panic: every index and slice expression of
    `DecodeSignature` is in range whenever it is reached (false before the repair of D1, witness
    `30 06 02 04 01 01 01 01 02`) -/
theorem der_no_panic (bs : Bytes) : (decode bs).isPanic = false := (decode_checks bs).isPanic

/-- the decoder accepts exactly the strings BIP66's predicate accepts; every other string is
    rejected with an error (see `der_rejects_with_error`) -/
theorem der_accepts_iff_bip66 (bs : Bytes) : (decode bs).isOk = true ↔ bip66 bs = true :=
  (decode_checks bs).isOk_iff.trans (bip66_iff_valid bs).symm

/-- what is not BIP66-valid is answered with the error, not with a panic -/
theorem der_rejects_with_error (bs : Bytes) (h : bip66 bs = false) : decode bs = .err :=
  (decode_checks bs).eq_err fun hv => by rw [(bip66_iff_valid bs).mpr hv] at h; cases h

/-- the reference predicate never reads outside the string: its value is the same whatever an
    out-of-range read would return (so `bip66 := bip66With 0` loses nothing) -/
theorem bip66_reads_in_range (d d' : UInt8) (bs : Bytes) : bip66With d bs = bip66With d' bs :=
  Bool.eq_iff_iff.mpr ⟨bip66With_any_default d d' bs, bip66With_any_default d' d bs⟩

/-- the decoded fields are the encoded values: an accepted string is the frame around two
    non-empty integer contents and a last byte, `r` and `s` are the big-endian values
    (`big.Int.SetBytes`) of the contents and the hash type is the last byte -/
theorem der_decode_fields (bs : Bytes) (g : Sig) (h : decode bs = .ok g) :
    ∃ rb sb ht, bs = frame rb sb ht ∧ rb ≠ [] ∧ sb ≠ [] ∧
      rb.length + sb.length + 7 = bs.length ∧
      g = ⟨beNat rb, beNat sb, ht.toNat⟩ := by
  obtain ⟨hv, rfl⟩ := ((decode_checks bs).eq_ok_iff g).mp h
  obtain ⟨rb, sb, ht, rfl, _, _, nr, ns, hl, hf⟩ := frame_of_valid hv
  exact ⟨rb, sb, ht, rfl, nr, ns, hl, hf⟩

/-- encoding any `0 ≤ r, s < 2^256` with a one-byte hash type succeeds and yields a BIP66-valid
    string of 9 to 73 bytes -/
theorem der_enc_valid (r s ht : Nat) (hr : r < 2 ^ 256) (hs : s < 2 ^ 256) (hht : ht < 256) :
    ∃ out, encode (some (r : Int)) (some (s : Int)) ht = .ok out ∧ bip66 out = true ∧
      9 ≤ out.length ∧ out.length ≤ 73 := by
  obtain ⟨hv, _, h9, h73⟩ := decode_frame_content hr hs (show ht ≤ 255 by omega)
  exact ⟨_, encode_nat_ok hr hs (by omega), (bip66_iff_valid _).mpr hv, h9, h73⟩

/-- decode ∘ encode: what the encoder emits decodes to the same triple -/
theorem der_dec_enc (r s ht : Nat) (hr : r < 2 ^ 256) (hs : s < 2 ^ 256) (hht : ht < 256)
    (out : Bytes) (h : encode (some (r : Int)) (some (s : Int)) ht = .ok out) :
    decode out = .ok ⟨r, s, ht⟩ := by
  rw [encode_nat_ok hr hs (by omega)] at h
  injection h with h; subst h
  exact (decode_frame_content hr hs (show ht ≤ 255 by omega)).2.1

/-- encode ∘ decode: anything decodable whose integers are below 2^256 re-encodes to identical
    bytes. (`_partial`: the property text says "anything decodable"; that is FALSE of the code and
    of any code satisfying the rest of the property — see below; nothing is missing from the proof.)

    The hypotheses `g.r < 2^256`, `g.s < 2^256` cannot be dropped: BIP66 (and therefore the
    decoder, by `der_accepts_iff_bip66`) admits integers of up to 65 content bytes, while
    `EncodeSignature` refuses everything of more than 256 bits (`der_refuses`). The property's two
    clauses "anything decodable re-encodes to identical bytes" and "oversized integers are
    refused" contradict each other on those strings; `der_enc_dec_oversized` states what the
    code does there and `der_enc_dec_oversized_witness` exhibits such a string. -/
theorem der_enc_dec_partial (bs : Bytes) (g : Sig) (h : decode bs = .ok g)
    (hr : g.r < 2 ^ 256) (hs : g.s < 2 ^ 256) :
    encode (some (g.r : Int)) (some (g.s : Int)) g.ht = .ok bs := by
  obtain ⟨hv, rfl⟩ := ((decode_checks bs).eq_ok_iff g).mp h
  obtain ⟨rb, sb, ht, rfl, ir, is, nr, ns, _, hf⟩ := frame_of_valid hv
  rw [hf] at hr hs ⊢
  rw [encode_nat_ok hr hs (Nat.le_of_lt_succ ht.toNat_lt), content_beNat _ nr ir, content_beNat _ ns is,
    byteOf_of_toNat]

/-- a decodable string with an integer of more than 256 bits is refused by the encoder -/
theorem der_enc_dec_oversized (bs : Bytes) (g : Sig) (h : decode bs = .ok g)
    (hbig : ¬ (g.r < 2 ^ 256 ∧ g.s < 2 ^ 256)) :
    encode (some (g.r : Int)) (some (g.s : Int)) g.ht = .err :=
  (encode_checks _ _ _).eq_err fun ⟨er, es, _⟩ =>
    hbig ⟨by exact_mod_cast ((encodable_some _).mp er).2, by exact_mod_cast ((encodable_some _).mp es).2⟩

/-- such strings exist: `30 26 02 21 01 00…00 02 01 01 01` (r = 2^256 in 33 bytes) is BIP66-valid,
    decodes, and its fields are refused by the encoder -/
theorem der_enc_dec_oversized_witness :
    let bs : Bytes := frame (1 :: List.replicate 32 0) [1] 1
    bip66 bs = true ∧ decode bs = .ok ⟨2 ^ 256, 1, 1⟩ ∧
      encode (some ((2 : Int) ^ 256)) (some 1) 1 = .err :=
  ⟨by decide +kernel, by decide +kernel,
    (encode_checks _ _ _).eq_err fun ⟨er, _⟩ => Int.lt_irrefl _ ((encodable_some _).mp er).2⟩

/-- what the encoder refuses, and how: the call succeeds exactly when both integers are non-nil,
    non-negative and below 2^256 and the hash type fits a byte; in every other case (nil,
    negative, ≥ 2^256, hash type > 0xff) it returns the error — never a panic -/
theorem der_refuses (r s : Option Int) (ht : Nat) :
    ((encode r s ht).isOk = true ↔
      ((∃ z, r = some z ∧ 0 ≤ z ∧ z < 2 ^ 256) ∧ (∃ z, s = some z ∧ 0 ≤ z ∧ z < 2 ^ 256) ∧ ht ≤ 255)) ∧
    ((encode r s ht).isOk = false → encode r s ht = .err) := by
  have c := encode_checks r s ht
  exact ⟨c.isOk_iff, fun h => c.eq_err fun hp => by rw [c.isOk_iff.mpr hp] at h; cases h⟩

/-- `EncodeBigInt` / `CheckEncodableBigInt`: nil, negative and ≥ 2^256 are refused with the error,
    everything else is encoded as tag 2, one length byte and the minimal non-negative content -/
theorem der_encint (v : Option Int) :
    ((∃ z, v = some z ∧ 0 ≤ z ∧ z < 2 ^ 256 ∧ checkEncodable v = .ok () ∧
        encodeBigInt v = .ok (2 :: byteOf (content z.natAbs).length :: content z.natAbs) ∧
        beNat (content z.natAbs) = z.natAbs ∧ IntOK (content z.natAbs) ∧
        1 ≤ (content z.natAbs).length ∧ (content z.natAbs).length ≤ 33)) ∨
    ((¬ ∃ z, v = some z ∧ 0 ≤ z ∧ z < 2 ^ 256) ∧ checkEncodable v = .err ∧ encodeBigInt v = .err) := by
  by_cases he : Encodable v
  · have ⟨z, hz, h0, h1⟩ := he
    subst hz
    exact .inl ⟨z, rfl, h0, h1, (checkEncodable_checks _).eq_ok he, (encodeBigInt_checks _).eq_ok he,
      beNat_content _, IntOK_content _, (content_length _).1,
      content_length_le ((natAbs_lt_iff h0).mpr h1)⟩
  · exact .inr ⟨he, (checkEncodable_checks v).eq_err he, (encodeBigInt_checks v).eq_err he⟩

/-! ### non-vacuity: concrete values satisfy the hypotheses and exercise both branches -/

/-- a typical signature: 32-byte r with the top bit set (pad byte), 32-byte s without -/
example :
    let r : Nat := 2 ^ 255 + 12345
    let s : Nat := 2 ^ 254 + 1
    r < 2 ^ 256 ∧ s < 2 ^ 256 ∧ (1 : Nat) < 256 := by decide +kernel

/-- … and it is encoded in the maximal 73 − 1 = 72 bytes … -/
example : (encode (some (2 ^ 255 + 12345)) (some (2 ^ 254 + 1)) 1).map List.length = .ok 72 := by decide +kernel
/-- the largest arguments give the largest encoding, 73 bytes -/
example : (encode (some (2 ^ 256 - 1)) (some (2 ^ 256 - 1)) 255).map List.length = .ok 73 := by decide +kernel
/-- the smallest, 9 bytes -/
example : (encode (some 0) (some 0) 0).map List.length = .ok 9 := by decide +kernel
example : decode [0x30, 0x06, 0x02, 0x01, 0x01, 0x02, 0x01, 0x01, 0x01] = .ok ⟨1, 1, 1⟩ := by decide +kernel
example : bip66 [0x30, 0x06, 0x02, 0x01, 0x01, 0x02, 0x01, 0x01, 0x01] = true := by decide +kernel
/-- the D1 reproducer is rejected with an error by the repaired code -/
example : decode [0x30, 0x06, 0x02, 0x04, 0x01, 0x01, 0x01, 0x01, 0x02] = .err := by decide +kernel
example : encode (some 128) (some 127) 255 = .ok [0x30, 0x07, 0x02, 0x02, 0x00, 0x80, 0x02, 0x01, 0x7f, 0xff] := by
  decide +kernel

end BtcVerif.Props.C11
