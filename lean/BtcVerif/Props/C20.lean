/-
  C20 — hash helpers equal their definitions; the chained multi-hasher is a streaming hash.

  The hash functions are abstract: a stage is ANY implementation of `hash.Hash` that satisfies the
  one law `Stage.Lawful` (digest after any writes on a fresh state = `H` of the concatenation), and
  `sum256` is any function.  The theorems are about the constructions of /repo/bhash built from
  them; that Go's SHA-256/SHA-512/RIPEMD-160 compute the functions of `Prim/` is what the
  correspondence run compares on every length 0..300 and on 10^6-byte strings.

  All statements hold for every non-empty chain, every history of calls and every byte string.
  Before the D11 repair (commit 1e22873) `multihasher_refines_stream` was false
  (`d11_old_code_did_not_refine`).
-/
import BtcVerif.Props.GuardPins.P_bhash
import BtcVerif.Proofs.MultiHasher

namespace BtcVerif.Props.C20
open BtcVerif BtcVerif.Model.MultiHasher BtcVerif.Proofs.MultiHasher
open BtcVerif.Spec.MultiHasher (Op Out Algo chain chainDigest lastSize firstBlockSize streamAfter)

/-- the chain a list of stages computes, as the specification sees it -/
abbrev algos (stages : List Stage) : List Algo := stages.map Stage.algo

/-- **Refinement.** For every non-empty chain of lawful stages and every history of calls, the
    model of `bhash.MultiHasher` answers exactly like the streaming-hash specification, which keeps
    only the bytes written since the last reset and answers `Sum b = b ‖ H_k(… H_1(stream))`. -/
theorem multihasher_refines_stream (stages : List Stage) (hne : stages ≠ [])
    (hl : ∀ S ∈ stages, S.Lawful) (ops : List Op) :
    run stages ops = .ok (Spec.MultiHasher.run (algos stages) ops) := by
  cases stages with
  | nil => exact absurd rfl hne
  | cons S0 Ss =>
    obtain ⟨mh, hnew, hinv⟩ := new_inv S0 Ss
    simp only [run, hnew]
    exact runFrom_refines S0 Ss hl ops [] mh hinv

/-- a history in two parts: the second part is answered from the stream the first part leaves behind -/
theorem run_append (stages : List Stage) (hne : stages ≠ []) (hl : ∀ S ∈ stages, S.Lawful) (pre post : List Op) :
    run stages (pre ++ post) = .ok (Spec.MultiHasher.runFrom (algos stages) [] pre ++
      Spec.MultiHasher.runFrom (algos stages) (streamAfter [] pre) post) := by
  rw [multihasher_refines_stream stages hne hl, Spec.MultiHasher.run, runFrom_append]

/-- … and the answers to the first part do not depend on what follows -/
theorem run_prefix (stages : List Stage) (hne : stages ≠ []) (hl : ∀ S ∈ stages, S.Lawful) (pre : List Op) :
    ∃ o, o.length = pre.length ∧ ∀ post, run stages (pre ++ post) =
      .ok (o ++ Spec.MultiHasher.runFrom (algos stages) (streamAfter [] pre) post) :=
  ⟨_, runFrom_length _ _ _, run_append stages hne hl pre⟩

/-- never a panic, never an error on a constructed hasher -/
theorem multihasher_no_panic (stages : List Stage) (hne : stages ≠ [])
    (hl : ∀ S ∈ stages, S.Lawful) (ops : List Op) : (run stages ops).isOk = true := by
  rw [multihasher_refines_stream stages hne hl ops]; rfl

/-- **Sum does not change state, Sum(b) = b ‖ digest, the digest depends only on the bytes written
    since the last reset.** Deleting a `Sum(b)` anywhere in a history deletes exactly its own
    answer; that answer is `b` followed by the chained hash of `streamAfter [] pre`. -/
theorem sum_does_not_change_state (stages : List Stage) (hne : stages ≠ [])
    (hl : ∀ S ∈ stages, S.Lawful) (pre post : List Op) (b : Bytes) :
    ∃ o1 o2, o1.length = pre.length ∧
      run stages (pre ++ post) = .ok (o1 ++ o2) ∧
      run stages (pre ++ .sum b :: post) =
        .ok (o1 ++ .digest (b ++ chainDigest (algos stages) (streamAfter [] pre)) :: o2) := by
  obtain ⟨o, ho, h⟩ := run_prefix stages hne hl pre
  exact ⟨o, _, ho, h post, h (.sum b :: post)⟩

/-- repeating Sum gives the same digest -/
theorem sum_idempotent (stages : List Stage) (hne : stages ≠ []) (hl : ∀ S ∈ stages, S.Lawful)
    (pre : List Op) (b : Bytes) :
    ∃ o d, o.length = pre.length ∧
      run stages (pre ++ [.sum b, .sum b]) = .ok (o ++ [.digest d, .digest d]) := by
  obtain ⟨o, ho, h⟩ := run_prefix stages hne hl pre
  exact ⟨o, _, ho, h [.sum b, .sum b]⟩

/-- a Write after a Sum continues the stream: the later digest is the one of the concatenation -/
theorem sum_then_write_continues (stages : List Stage) (hne : stages ≠ [])
    (hl : ∀ S ∈ stages, S.Lawful) (pre : List Op) (b1 b2 p : Bytes) :
    ∃ o d1, o.length = pre.length ∧
      run stages (pre ++ [.sum b1, .write p, .sum b2]) =
        .ok (o ++ [.digest d1, .wrote p.length,
          .digest (b2 ++ chainDigest (algos stages) (streamAfter [] pre ++ p))]) := by
  obtain ⟨o, ho, h⟩ := run_prefix stages hne hl pre
  exact ⟨o, _, ho, h [.sum b1, .write p, .sum b2]⟩

/-- the stream of a history that only writes is the concatenation of the chunks -/
theorem stream_of_writes (chunks : List Bytes) :
    streamAfter [] (chunks.map .write) = chunks.flatten := by
  simpa using streamAfter_writes [] chunks

/-- Reset restores the initial state: what follows answers like a fresh hasher -/
theorem reset_restores (stages : List Stage) (hne : stages ≠ []) (hl : ∀ S ∈ stages, S.Lawful)
    (pre post : List Op) :
    ∃ o1 o2, o1.length = pre.length ∧ run stages post = .ok o2 ∧
      run stages (pre ++ .reset :: post) = .ok (o1 ++ .unit :: o2) := by
  obtain ⟨o, ho, h⟩ := run_prefix stages hne hl pre
  exact ⟨o, _, ho, multihasher_refines_stream stages hne hl post, h (.reset :: post)⟩

/-- Size is the output size of the last stage, BlockSize the block size of the first, at any
    point of any history -/
theorem size_blocksize (S0 : Stage) (Ss : List Stage) (hl : ∀ S ∈ S0 :: Ss, S.Lawful)
    (pre : List Op) :
    ∃ o, o.length = pre.length ∧
      run (S0 :: Ss) (pre ++ [.size, .blockSize]) =
        .ok (o ++ [.num ((S0 :: Ss).getLast (by simp)).size, .num S0.blockSize]) := by
  obtain ⟨o, ho, h⟩ := run_prefix _ (List.cons_ne_nil _ _) hl pre
  refine ⟨o, ho, (h _).trans ?_⟩
  show Outcome.ok (o ++ [.num (lastSize (algos (S0 :: Ss))), .num S0.blockSize]) = _
  rw [lastSize_eq_getLast (algos (S0 :: Ss)) (by simp), List.getLast_map]
  rfl

/-- the length of a `Sum(nil)` answer is `Size()` when the last stage's function has that output
    length (which `hash.Hash` promises) -/
theorem sum_nil_length (stages : List Stage) (S : Stage) (hl : ∀ T ∈ stages ++ [S], T.Lawful)
    (hsize : ∀ x, (S.H x).length = S.size) (pre : List Op) :
    ∃ o d, run (stages ++ [S]) (pre ++ [.sum []]) = .ok (o ++ [.digest d]) ∧ d.length = S.size := by
  obtain ⟨o, _, h⟩ := run_prefix _ (by simp) hl pre
  refine ⟨o, _, h [.sum []], ?_⟩
  simp only [List.nil_append, chainDigest, algos, List.map_append, List.map_cons, List.map_nil, chain_append]
  exact hsize _

/-- the chain sha256 → sha256 fed in arbitrary chunks computes `DoubleSha256` of the
    concatenation (the transaction digests of /repo/tx/sighash.go are built this way) -/
theorem dsha256_eq_chain (S : Stage) (hS : S.Lawful) (chunks : List Bytes) (b : Bytes) :
    run [S, S] (chunks.map .write ++ [.sum b]) =
      .ok (chunks.map (fun c => Out.wrote c.length) ++
        [.digest (b ++ doubleSha256 S.H chunks.flatten)]) := by
  rw [run_append _ (by simp) (by simp [hS]), runFrom_writes, streamAfter_writes]
  rfl

/-- the chain sha256 → ripemd160 computes HASH160 -/
theorem hash160_eq_chain (S R : Stage) (hS : S.Lawful) (hR : R.Lawful) (chunks : List Bytes)
    (b : Bytes) :
    run [S, R] (chunks.map .write ++ [.sum b]) =
      .ok (chunks.map (fun c => Out.wrote c.length) ++
        [.digest (b ++ Spec.MultiHasher.hash160 S.H R.H chunks.flatten)]) := by
  rw [run_append _ (by simp) (by simp [hS, hR]),
    runFrom_writes, streamAfter_writes]
  rfl

theorem doubleSha256_eq_def (sum256 : Bytes → Bytes) (data : Bytes) :
    doubleSha256 sum256 data = Spec.MultiHasher.doubleSha256 sum256 data := rfl

/-- `Ripemd160` (New, Write, Sum into a 20-byte array) is the function of the stage -/
theorem ripemd160_eq_def (R : Stage) (hR : R.Lawful) (h20 : ∀ x, (R.H x).length = 20)
    (data : Bytes) : ripemd160 R data = R.H data := by
  rw [ripemd160_eq R hR, copyArr_of_length _ _ (h20 data)]

theorem hash160_eq_def (sum256 : Bytes → Bytes) (R : Stage) (hR : R.Lawful)
    (h20 : ∀ x, (R.H x).length = 20) (data : Bytes) :
    hash160 sum256 R data = Spec.MultiHasher.hash160 sum256 R.H data := by
  simp [hash160, ripemd160_eq_def R hR h20, Spec.MultiHasher.hash160, sha256]

/-- the tagged hasher (streaming writes of the hashed tag twice, then every chunk) computes
    `sha256(sha256(tag) ‖ sha256(tag) ‖ chunks…)` -/
theorem taggedHash_eq_def (sum256 : Bytes → Bytes) (S : Stage) (hS : S.Lawful)
    (hH : S.H = sum256) (tag : Bytes) (chunks : List Bytes) :
    taggedHash sum256 S tag chunks = Spec.MultiHasher.taggedHash sum256 tag chunks := by
  rw [taggedHash_eq sum256 S hS, hH]; rfl

/-- the chain refused by `NewMultiHasher` (no stages): a nil pointer, every call panics -/
theorem empty_chain_panics (op : Op) (ops : List Op) : run [] (op :: ops) = .panic := by
  simp [run_nil]

/-- D11: the code before the repair did not satisfy the refinement statement -/
theorem d11_old_code_did_not_refine :
    ¬ ∀ (stages : List Stage), stages ≠ [] → (∀ S ∈ stages, S.Lawful) → ∀ ops,
      Old.run stages ops = .ok (Spec.MultiHasher.run (algos stages) ops) := by
  intro h
  have h1 := h [toy, toy] (by simp) (by simp [toy_lawful])
    [.write [1], .sum [], .sum []]
  rw [old_sum_not_idempotent] at h1
  revert h1; decide

/-! ### non-vacuity: the stages the oracle runs are lawful, and a concrete history -/

example : ∀ S ∈ [sha256Stage, sha512Stage, ripemd160Stage], S.Lawful := by
  simp [sha256Stage_lawful, sha512Stage_lawful, ripemd160Stage_lawful]

example : [sha256Stage, sha512Stage, ripemd160Stage] ≠ [] := by simp

/-- on the toy stage (identity "hash") the repaired code repeats the digest and keeps the prefix -/
example : run [toy, toy] [.write [1], .sum [], .sum [9], .write [2], .sum [], .reset, .sum [], .size]
    = .ok [.wrote 1, .digest [1], .digest [9, 1], .wrote 1, .digest [1, 2], .unit, .digest [],
           .num 1] := by decide

end BtcVerif.Props.C20
