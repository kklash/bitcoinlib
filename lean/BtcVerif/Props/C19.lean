/-
  C19 — stateless APIs are safe for concurrent use from a cold start.

  Two layers: (1) theorems in a happens-before model (Model/HB.lean): each of the three access
  disciplines implies data-race freedom for ANY number of goroutines and ANY interleaving, and the
  unforced lazy initialisation (the reproduced defect D21) races; (2) `lib_race_free`: the kernel
  evaluates the discipline on the access table regenerated from the Go source by the SSA summary
  (extract/access.go) on every run — every package-level variable of the repository's modules and of
  the kklash dependencies and every field of rpc.Connection (a location never written after
  initialisation passes by the first discipline, so the evaluation looks at the others).
  The request-id counter of `rpc.Connection` is a third part: a state machine over whole critical sections
  (`Model/RpcIds.lean`, theorems `rpc_*` below), tied to the source by `rpc_counter_only_incremented`.
  Residue (stated in DESIGN.md): the table's completeness rests on the SSA summary; the model is the
  happens-before relation above, not Go's formal memory model; the race-detector rig (correspondence)
  observes only the schedules that occur.
-/
import BtcVerif.Props.GuardPins.P_rpc
import BtcVerif.Proofs.HB
import BtcVerif.Gen.AccessTable
import BtcVerif.Proofs.RpcIds
import BtcVerif.Gen.Facts

namespace BtcVerif.Props.C19
open BtcVerif.Model.HB

/-- a location written only during package initialisation never races -/
theorem init_only_no_race (t : Trace) (x : Nat) (hf : InitFirst t) (hx : InitOnly t x) : ¬ RaceOn t x :=
  init_only_race_free t x hf hx

/-- a location whose post-initialisation accesses are all under one mutex never races -/
theorem mutex_guarded_no_race (t : Trace) (x m : Nat) (hf : InitFirst t) (hm : MutexOk t)
    (hg : GuardedBy t x m) : ¬ RaceOn t x := guarded_race_free t x m hf hm hg

/-- the cold-start defect: without the forced initialisation two first calls race -/
theorem lazy_init_cold_start_races : RaceOn coldStartTrace 7 := lazy_init_races

/-- with initialisation forcing the lazy write, any number of goroutines calling the accessor in
    any order never race -/
theorem forced_init_no_race (x : Nat) (calls : List Nat) (hpos : ∀ tid ∈ calls, tid ≠ 0) :
    ¬ RaceOn (lazyCall 0 x false ++ (calls.map fun tid => lazyCall tid x true).flatten) x :=
  forced_init_race_free x calls hpos

/-- the ids `start, start + 1, …` that a counter incremented once per critical section hands out (the critical
    sections are totally ordered by the mutex) are pairwise distinct, for any number of requests; the statement
    about the state machine of the counter is `rpc_ids_issued_once` -/
theorem request_ids_distinct (start k : Nat) :
    ((List.range k).map fun i => start + i).Nodup := by
  rw [← List.range'_eq_map_range]
  exact List.nodup_range'

/-- **the library**: every package-level location (and every rpc.Connection field) satisfies one of
    the three disciplines on the table regenerated from the current source; the documented global
    mutation `constants.CurrentNetwork` is excluded as the property says -/
theorem lib_race_free :
    tableOk BtcVerif.Gen.accessTable BtcVerif.Gen.excludedLocs = true :=
  tableOk_of_late_writes _ _ (by decide +kernel)

/-- the table is not empty and covers the interesting locations (non-vacuity) -/
theorem table_covers :
    BtcVerif.Gen.coverLocs.all (fun i => i != 0 && (locs BtcVerif.Gen.accessTable).contains i) = true := by
  simp only [contains_locs]
  decide +kernel

/-- **from the table to executions**: for every execution that the rows describe (every access has a
    row of the same kind and initialisation flag; a row marked guarded stands for an access made while
    the location's mutex is held), a location on which the table's discipline (a) "written only during
    initialisation" or (b) "every later access under the mutex" evaluates to true has no data race —
    for any number of goroutines and any interleaving. Discipline (c), lazy initialisation forced
    during package initialisation, is `forced_init_no_race`. -/
theorem table_discipline_sound (t : Trace) (rows : List AccessRow) (mutexOf : Nat → Nat) (x : Nat)
    (hf : InitFirst t) (hm : MutexOk t) (hc : Conforms t rows mutexOf) (hok : locOkAB rows x = true) :
    ¬ RaceOn t x := by
  rcases Bool.or_eq_true_iff.mp hok with ha | hb
  · exact init_only_race_free t x hf (hc.initOnly ha)
  · exact guarded_race_free t x (mutexOf x) hf hm (hc.guardedBy hb)

/-- on the regenerated table every location satisfies discipline (a) or (b), or package initialisation itself
    makes a lazy write to it (what discipline (c) asks for: `forced_init_no_race`) -/
theorem lib_ab_or_lazy :
    ((locs BtcVerif.Gen.accessTable).filter (fun l => !BtcVerif.Gen.excludedLocs.contains l)).all
      (fun l => locOkAB BtcVerif.Gen.accessTable l ||
        (BtcVerif.Gen.accessTable.any fun r => r.loc == l && r.isWrite && r.lazy && r.inInit)) = true :=
  List.all_eq_true.mpr fun l hl => locOk_ab_or_lazy _ l (List.all_eq_true.mp lib_race_free l hl)

/-! non-vacuity of the hypotheses: a trace with initialisation, two goroutines taking the mutex in turn,
    and its rows -/
def sampleTrace : Trace :=
  [⟨0, .write, 5⟩, ⟨1, .lock, 9⟩, ⟨1, .read, 5⟩, ⟨1, .write, 5⟩, ⟨1, .unlock, 9⟩, ⟨2, .lock, 9⟩, ⟨2, .write, 5⟩, ⟨2, .unlock, 9⟩]
def sampleRows : List AccessRow :=
  [⟨5, true, false, true, false⟩, ⟨5, false, false, false, true⟩, ⟨5, true, false, false, true⟩]

example : locOkAB sampleRows 5 = true := by decide
example : Conforms sampleTrace sampleRows (fun _ => 9) := by
  intro i e hi hk
  have hlt : i < 8 := (List.getElem?_eq_some_iff.mp hi).1
  -- the initialisation write, the read and the writes under the mutex; locks and unlocks are no accesses
  match i, hi with
  | 0, hi =>
    obtain rfl := Option.some.inj hi
    exact ⟨⟨5, true, false, true, false⟩, by decide, rfl, rfl, rfl, nofun⟩
  | 2, hi =>
    obtain rfl := Option.some.inj hi
    exact ⟨⟨5, false, false, false, true⟩, by decide, rfl, rfl, rfl, fun _ => by decide⟩
  | 3, hi | 6, hi =>
    obtain rfl := Option.some.inj hi
    exact ⟨⟨5, true, false, false, true⟩, by decide, rfl, rfl, rfl, fun _ => by decide⟩
  | 1, hi | 4, hi | 5, hi | 7, hi =>
    obtain rfl := Option.some.inj hi
    exact hk.elim nofun nofun
  | i + 8, _ => omega

open BtcVerif.Model.RpcIds in
/-- **every id is issued once**: in any execution (any number of goroutines, any interleaving of their
critical sections, any number of retries) the ids handed out are pairwise distinct — so two different
requests never carry the same id, and not even a retry repeats one -/
theorem rpc_ids_issued_once (start : Nat) (tags : List Nat) :
    ((run start tags).log.map Prod.snd).Nodup := by
  rw [run_log, List.map_snd_zip (Nat.le_of_eq List.length_range')]
  exact List.nodup_range'

open BtcVerif.Model.RpcIds in
/-- two entries of the log with the same id are the same entry: different logical requests have different ids -/
theorem rpc_different_requests_different_ids (start : Nat) (tags : List Nat) (i j : Nat)
    (hi : i < (run start tags).log.length) (hj : j < (run start tags).log.length)
    (h : ((run start tags).log[i]).2 = ((run start tags).log[j]).2) : i = j := by
  have hn := rpc_ids_issued_once start tags
  have hi' : i < ((run start tags).log.map Prod.snd).length := by simpa using hi
  have hj' : j < ((run start tags).log.map Prod.snd).length := by simpa using hj
  exact (List.getElem_inj (h₀ := hi') (h₁ := hj') hn).mp (by simpa using h)

open BtcVerif.Model.RpcIds in
/-- the theorem discriminates: handing the id back after a refusal (seeded change C19-R6A of DESIGN.md II.7) gives the retry of
request 1 the id that request 2 holds -/
theorem rpc_handing_ids_back_clashes :
    (runBack 0 [.take 1, .take 2, .refused, .take 1]).log = [(1, 0), (2, 1), (1, 1)] := by decide

/-- the tie: the only assignment `RequestSetResult` makes through a field is `conn.requestID += 1`, and it takes
the mutex before anything else (the access table has the read and the write under the mutex: `lib_race_free`) -/
theorem rpc_counter_only_incremented :
    BtcVerif.Gen.Facts.rpc_Connection_RequestSetResult_assignStmts = ["conn.requestID += 1"] ∧
    BtcVerif.Gen.Facts.rpc_Connection_RequestSetResult_calls.take 2 =
      ["conn.requestIDMutex.Lock", "conn.requestIDMutex.Unlock"] := by decide

end BtcVerif.Props.C19
