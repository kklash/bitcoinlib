/-
  C13 — taproot key tweaks commute and P2TR outputs equal the BIP341 construction.

  Theorems about the model `Model/Taproot.lean` of /repo/taproot and /repo/script/p2tr.go over
    * an ARBITRARY record of curve operations `C` with the named hypotheses `SecpGroup` (commutative
      group, `k ↦ k·G` a homomorphism, `G` of order `n ≤ 2^256`), `PointCodec` (used here only for
      the 32-byte width of the x-only form) and `XOnly` (`x(−P) = x(P)`, parity flips under negation, the 32-byte form parses to the point
      with even `y`) — `Proofs/GroupAbs.lean`, satisfiable (`toy`);
    * an ARBITRARY function `sha` in place of SHA-256.

  Quirk of the code, visible in the statements: `TweakPublicKey`/`TweakPrivateKey` refuse the tweak
  `t = 0` as well (`IsValidScalar`), BIP341 only refuses `t ≥ n`. So "model = reference" holds in
  the direction model-succeeds ⇒ reference gives the same, and conversely under `t ≠ 0`
  (`t = 0` means a SHA-256 output of 32 zero bytes).

  Honest limit (DESIGN §7 C13): "a dead key fails for any other proof" is not a theorem —
  `r' = −r − 2·dlog(H)` gives the same x coordinate, and a proof with extra leading zero bytes is the
  same integer. What holds, and is proved, is `dead_verify_iff`.
-/
import BtcVerif.Props.GuardPins.P_bhash
import BtcVerif.Props.GuardPins.P_script
import BtcVerif.Props.GuardPins.P_taproot
import BtcVerif.Proofs.Taproot

namespace BtcVerif.Props.C13
open BtcVerif BtcVerif.Model BtcVerif.Model.Bip32 BtcVerif.Model.Taproot BtcVerif.Proofs BtcVerif.Proofs.Taproot

variable {P : Type} {C : CurveOps P} {sha : Bytes → Bytes}

/-- Tweaking the private key and then taking its x-only public key and parity gives exactly what
    tweaking the x-only public key gives — key, parity, and also the failure case — for every
    valid private key (either parity of its public `y`) and every commitment (any length). -/
theorem tweak_commute (S : SecpGroup C) (E : PointCodec C) (X : XOnly C S) (sk h : Bytes)
    (hv : isValidScalar C.n (beNat sk) = true) :
    tweakPub C sha (C.xBytes (C.mulG (beNat sk))) h =
      (tweakPriv C sha sk h).map
        (fun sk' => (C.xBytes (C.mulG (beNat sk')), C.yOdd (C.mulG (beNat sk')))) :=
  Proofs.Taproot.tweak_commute S E X sk h hv

/-- the reported parity is that of the tweaked point, i.e. of the public key of the tweaked
    private key -/
theorem tweak_parity (S : SecpGroup C) (E : PointCodec C) (X : XOnly C S) (sk h sk' : Bytes)
    (hv : isValidScalar C.n (beNat sk) = true) (hok : tweakPriv C sha sk h = .ok sk') :
    ∃ q, tweakPub C sha (C.xBytes (C.mulG (beNat sk))) h = .ok (q, C.yOdd (C.mulG (beNat sk'))) ∧
      q = C.xBytes (C.mulG (beNat sk')) := by
  have := Proofs.Taproot.tweak_commute (sha := sha) S E X sk h hv
  rw [hok] at this
  exact ⟨_, this, rfl⟩

/-- whenever `TweakPublicKey` succeeds, BIP341's `taproot_tweak_pubkey` returns the same parity and
    key … -/
theorem tweakPub_matches_bip341 {pk h q : Bytes} {par : Bool}
    (hok : tweakPub C sha pk h = .ok (q, par)) :
    Spec.Taproot.taprootTweakPubkey C sha pk h = some (par, q) := by
  rw [tweakPub_eq] at hok
  split at hok
  · cases hok
  · split at hok
    · cases hok
    · cases hok; assumption

/-- … and conversely, except for the tweak `t = 0` which the code refuses -/
theorem tweakPub_matches_bip341_conv {pk h q : Bytes} {par : Bool}
    (hs : Spec.Taproot.taprootTweakPubkey C sha pk h = some (par, q))
    (ht0 : tapTweak sha [pk, h] ≠ 0) : tweakPub C sha pk h = .ok (q, par) := by
  rw [tweakPub_eq, if_neg ht0, hs]

/-- the same for `TweakPrivateKey` and `taproot_tweak_seckey` -/
theorem tweakPriv_matches_bip341 {sk h out : Bytes} (hok : tweakPriv C sha sk h = .ok out) :
    Spec.Taproot.taprootTweakSeckey C sha sk h = some out := by
  obtain ⟨t, x, _, hm, hsp⟩ := tweakPriv_vs_spec (C := C) (sha := sha) sk h
  rw [hm] at hok
  split at hok
  · rename_i hv
    obtain ⟨rfl, _⟩ := Bip32.fill32_eq_ok hok
    rw [hsp, if_neg (Nat.not_le.mpr (isValidScalar_iff.mp hv.2).2)]
  · cases hok

theorem tweakPriv_matches_bip341_conv (S : SecpGroup C) {sk h out : Bytes}
    (hv : isValidScalar C.n (beNat sk) = true)
    (hs : Spec.Taproot.taprootTweakSeckey C sha sk h = some out)
    (ht0 : tapTweak sha [C.xBytes (C.mulG (beNat sk)) ++ h] ≠ 0) :
    tweakPriv C sha sk h = .ok out := by
  obtain ⟨t, x, rfl, hm, hsp⟩ := tweakPriv_vs_spec (C := C) (sha := sha) sk h
  rw [hsp] at hs
  split at hs
  · cases hs
  · rename_i hn
    injection hs with hs
    rw [hm, if_pos ⟨hv, isValidScalar_iff.mpr ⟨Nat.pos_of_ne_zero ht0, Nat.not_le.mp hn⟩⟩, ← hs, fill32,
      if_pos (S.mod_n_lt _)]

/-- the TapLeaf preimage is `version ‖ compact-size(script length) ‖ script`
    (false before the D10 repair for every script of 76 bytes or more) -/
theorem leaf_preimage (v : UInt8) (s : Bytes) : leafPre v s = v :: (encVarint s.length ++ s) := rfl

/-- … and the leaf hash is BIP341's, for every version and every script length -/
theorem leaf_matches_bip341 (v : UInt8) (s : Bytes) :
    leafHash sha v s = Spec.Taproot.leafHash sha v s := leafHash_spec v s

/-- the branch hash does not depend on the order of its children -/
theorem branch_comm (a b : Bytes) : branchHash sha a b = branchHash sha b a := branchHash_comm a b

theorem branch_matches_bip341 (a b : Bytes) :
    branchHash sha a b = Spec.Taproot.branchHash sha a b := branchHash_spec a b

/-- every tree without nil nodes hashes to BIP341's tree hash -/
theorem tree_matches_bip341 {t : Tree} {st : Spec.Taproot.STree} (h : toSpec t = some st) :
    treeHash sha t = .ok (Spec.Taproot.treeHash sha st) := by
  rw [treeHash_eq, h]

/-- a P2TR output is `51 20 ‖ key` with `key` the 32-byte internal key tweaked by the tree's
    commitment (empty for the nil tree) -/
theorem p2tr_form (E : PointCodec C) {pk out : Bytes} {tree : Tree}
    (hok : makeP2TR C sha pk tree = .ok out) :
    ∃ h key par, commitment sha tree = .ok h ∧ tweakPub C sha pk h = .ok (key, par) ∧
      key.length = 32 ∧ out = (0x51 : UInt8) :: (0x20 : UInt8) :: key := by
  rw [makeP2TR_eq E] at hok
  simp only [Outcome.bind_eq_ok] at hok
  obtain ⟨h, hh, q, hq, ho⟩ := hok
  injection ho with ho
  exact ⟨h, q.1, q.2, hh, hq, tweakPub_key_length E hq, ho.symm⟩

/-- exchanging the left and right child of any number of branch nodes, anywhere in the tree, does
    not change the output (nor whether the call fails or panics) -/
theorem p2tr_child_order_independent (E : PointCodec C) (pk : Bytes) {t t' : Tree}
    (h : ChildSwap t t') : makeP2TR C sha pk t = makeP2TR C sha pk t' := by
  rw [makeP2TR_eq E, makeP2TR_eq E, commitment, commitment, h.isNil_eq, treeHash_swap h]

/-- the output equals BIP341's `taproot_output_script` -/
theorem p2tr_matches_bip341 (E : PointCodec C) {pk out : Bytes} {tree : Tree}
    {st : Option Spec.Taproot.STree} (hst : treeToSpec tree = some st)
    (hok : makeP2TR C sha pk tree = .ok out) :
    Spec.Taproot.taprootOutputScript C sha pk st = some out := by
  obtain ⟨h, key, par, hc, ht, _, rfl⟩ := p2tr_form E hok
  rw [commitment_eq, hst] at hc
  unfold Spec.Taproot.taprootOutputScript
  cases st <;> (injection hc with hc; subst hc; simp only [tweakPub_matches_bip341 ht])

/-- verification succeeds exactly when the proof is a valid scalar and the key is the one built
    from it: out-of-range proofs and every other key fail -/
theorem dead_verify_iff (H : P) (key proof : Bytes) :
    verifyDead C H key proof = .ok () ↔
      (isValidScalar C.n (beNat proof) = true ∧ buildDead C H proof = .ok key) := by
  rw [verifyDead_eq]
  by_cases hv : isValidScalar C.n (beNat proof) = true
  · rw [if_pos hv, Outcome.bind_eq_ok]
    refine ⟨fun ⟨dead, hd, h⟩ => ?_, fun ⟨_, hb⟩ => ⟨key, hb, if_pos rfl⟩⟩
    split at h
    · subst key; exact ⟨hv, hd⟩
    · cases h
  · rw [if_neg hv]
    exact ⟨nofun, fun h => absurd h.1 hv⟩

/-- a dead key verifies against its own proof, for every proof in [1, n−1] -/
theorem dead_verify_own (S : SecpGroup C) (H : P) (proof : Bytes)
    (hv : isValidScalar C.n (beNat proof) = true) :
    ∃ key, buildDead C H proof = .ok key ∧ verifyDead C H key proof = .ok () :=
  ⟨_, buildDead_ok S H proof hv, (dead_verify_iff H _ proof).mpr ⟨hv, buildDead_ok S H proof hv⟩⟩

/-! ### non-vacuity -/

/-- a toy "SHA-256" with a 32-byte output that depends on its input -/
def toySha (m : Bytes) : Bytes :=
  List.replicate 31 0 ++ [UInt8.ofNat ((m.length + (m.getLastD 0).toNat) % 5)]

example : isValidScalar toy.n (beNat [3]) = true := by decide +kernel
example : (tweakPriv toy toySha [3] [9, 9]).isOk = true := by decide +kernel
example : (tweakPriv toy toySha [5] []).isOk = true := by decide +kernel
example : toy.yOdd (toy.mulG 5) = true ∧ toy.yOdd (toy.mulG 3) = false := by decide +kernel
example : ChildSwap (.branch (.leaf 0xc0 [1]) (.branch (.hash [2]) (.leaf 1 [])))
    (.branch (.branch (.leaf 1 []) (.hash [2])) (.leaf 0xc0 [1])) :=
  .swap (.refl _) (.swap (.refl _) (.refl _))
set_option maxRecDepth 8192 in
example : (makeP2TR toy toySha (toy.xBytes (toy.mulG 3)) (.leaf 0xc0 [2, 2])).isOk = true := by
  decide +kernel
example : ∃ key, buildDead toy (toy.mulG 4) [2] = .ok key ∧ verifyDead toy (toy.mulG 4) key [2] = .ok () :=
  dead_verify_own toyGroup (toy.mulG 4) [2] (by decide +kernel)

end BtcVerif.Props.C13
