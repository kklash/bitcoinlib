/-
  C05 — signature verification accepts exactly what the reference verifier accepts.

  Property theorems (helpers: `Proofs/ECC.lean`, `Proofs/ECCGroup.lean`). `Model.ECC.verifyECDSA`
  / `verifySchnorr` mirror the Go code's guard structure over the curve record `C : CurveOps`;
  `Spec.ECC.verifyECDSA` / `verifySchnorr` are SEC 1 §4.1.4 (with strict key parsing) and the
  BIP340 reference verifier over the SAME opaque curve functions, so the equalities below are about
  the order and completeness of the range checks, the accepted key encodings and the treatment of
  the point at infinity — and they hold for ALL inputs (any byte strings, any integers).
  Hypotheses (`FieldHyp`, `CurveAbs`) are structure arguments, satisfiable (`Proofs/CurveAbsToy.lean`).

  What no theorem can state: "a signature with an altered r, s, message or key is rejected" is
  unforgeability, a computational assumption — here it is covered by `model = reference` for all
  inputs plus the differential run (bit/byte mutations, forged signatures) against the independent
  `Prim` implementation.
-/
import BtcVerif.Props.GuardPins.P_ecc
import BtcVerif.Proofs.ECCGroup
import BtcVerif.Proofs.CurveAbsToy

namespace BtcVerif.Props.C05
open BtcVerif BtcVerif.Model.ECC BtcVerif.Proofs BtcVerif.Proofs.ECC
open BtcVerif.Spec.ECC (IsStandardEncoding)

variable {C : CurveOps}

/-- ECDSA: the model verifier IS the SEC 1 verifier with strict key parsing, for every key string,
    every 32-byte digest and every pair of integers (never panics) -/
theorem verifyECDSA_eq_spec (H : CurveAbs C) (pub hash : Bytes) (r s : Nat) (hh : hash.length = 32) :
    verifyECDSA C pub hash r s = .ok (Spec.ECC.verifyECDSA C pub hash r s) :=
  ECC.verifyECDSA_eq_spec H pub hash r s hh

/-- BIP340: the model verifier IS the BIP340 reference verifier, for every key string, 32-byte
    message and 64-byte signature (never panics) -/
theorem verifySchnorr_eq_spec (H : CurveAbs C) (S : SigOps) (pub msg sig : Bytes) (hm : msg.length = 32)
    (hs : sig.length = 64) :
    verifySchnorr C S pub msg sig = .ok (Spec.ECC.verifySchnorr C S.hChallenge pub msg sig) :=
  ECC.verifySchnorr_eq_spec H S pub msg sig hm hs

/-- honestly produced ECDSA signatures are accepted, under the compressed and the uncompressed key
    (`r ≠ 0`, `s ≠ 0`: the library does not retry on the 2^-256 events r = 0 / s = 0; both are
    decidable and hold for every signature seen) -/
theorem honest_ecdsa_accepted (H : CurveAbs C) {S : SigOps} {priv hash pub : Bytes} {r s : Nat}
    (hsig : signECDSA C S priv hash = .ok (r, s)) (hr0 : r ≠ 0) (hs0 : s ≠ 0)
    (hpub : getPublicKeyCompressed C priv = .ok pub ∨ getPublicKeyUncompressed C priv = .ok pub) :
    verifyECDSA C pub hash r s = .ok true := ecdsa_sign_verify H hsig hr0 hs0 hpub

/-- … including the high-S twin, as documented -/
theorem verify_highS_twin (H : CurveAbs C) {pub hash : Bytes} {r s : Nat}
    (h : verifyECDSA C pub hash r s = .ok true) : verifyECDSA C pub hash r (C.n - s) = .ok true :=
  ECC.verify_highS_twin H h

/-- honestly produced Schnorr signatures are accepted -/
theorem honest_schnorr_accepted (H : CurveAbs C) {S : SigOps} {priv msg aux sig pub : Bytes}
    (hsig : signSchnorr C S priv msg aux = .ok sig) (hpub : getPublicKeySchnorr C priv = .ok pub) :
    verifySchnorr C S pub msg sig = .ok true := schnorr_sign_verify H hsig hpub

/-- ECDSA: r or s equal to 0 or ≥ n is rejected — no curve hypothesis, for any key string -/
theorem reject_out_of_range (pub hash : Bytes) (r s : Nat) (hh : hash.length = 32)
    (hbad : r = 0 ∨ C.n ≤ r ∨ s = 0 ∨ C.n ≤ s) : verifyECDSA C pub hash r s = .ok false := by
  rw [verifyECDSA_eq, if_neg (not_not.mpr hh), if_neg]
  rw [Bool.and_eq_true, isValidScalar_iff, isValidScalar_iff]
  omega

/-- Schnorr: r ≥ p or s ≥ n is rejected — no curve hypothesis, for any key string -/
theorem schnorr_reject_out_of_range (S : SigOps) (pub msg sig : Bytes) (hm : msg.length = 32)
    (hs : sig.length = 64) (hbad : C.p ≤ beNat (sig.take 32) ∨ C.n ≤ beNat (sig.drop 32)) :
    verifySchnorr C S pub msg sig = .ok false :=
  verifySchnorr_reject S pub msg sig hm hs (Or.inr (Or.inr hbad))

/-- a public key that is not a standard encoding of a finite curve point (malformed, wrong length,
    hybrid prefix, off-curve, x ≥ p, y ≥ p, the all-zero encodings of infinity) is rejected by both
    verifiers, whatever the signature -/
theorem reject_bad_key (H : FieldHyp C) (S : SigOps) (pub hash sig : Bytes) (r s : Nat)
    (hh : hash.length = 32) (hs : sig.length = 64) (hk : ¬ ∃ P, IsStandardEncoding C pub P) :
    verifyECDSA C pub hash r s = .ok false ∧ verifySchnorr C S pub hash sig = .ok false := by
  have hd : deserializePoint C pub = .err := by
    cases hd : deserializePoint C pub with
    | err => rfl
    | panic => exact absurd hd (deserializePoint_ne_panic pub)
    | ok P => exact absurd ⟨P, (deserializePoint_ok_iff H pub P).mp hd⟩ hk
  exact ⟨verifyECDSA_reject_key pub hash r s hh hd, verifySchnorr_reject S pub hash sig hh hs (Or.inr (Or.inl hd))⟩

/-- Schnorr keys must be exactly 32 bytes -/
theorem schnorr_reject_key_length (S : SigOps) (pub msg sig : Bytes) (hm : msg.length = 32)
    (hs : sig.length = 64) (hk : pub.length ≠ 32) : verifySchnorr C S pub msg sig = .ok false :=
  verifySchnorr_reject S pub msg sig hm hs (Or.inl hk)

/-- hypothesis-free: the key decoder never yields ekliptic's point at infinity `(0,0)` nor any zero
    coordinate. This is exactly what failed before the D8 repair: `00…00` decoded to `(0,0)`, `e·P`
    vanished, and `VerifySchnorr(00…00, m, x(G)‖1)`, `VerifyECDSA(02 00…00, m, x(G), z)` returned true
    (kept as corpus cases). -/
theorem deserialize_never_infinity {bs : Bytes} {P : Pt} (h : deserializePoint C bs = .ok P) :
    P ≠ (0, 0) ∧ P.1 ≠ 0 ∧ P.2 ≠ 0 := by
  have := ECC.deserialize_never_infinity h
  exact ⟨fun h0 => this.1 (by rw [h0]), this⟩

/-- a decoded key is a finite curve point: `x, y < p` and `y² = x³ + 7` -/
theorem deserialize_sound (H : FieldHyp C) {bs : Bytes} {P : Pt} (h : deserializePoint C bs = .ok P) :
    P.1 < C.p ∧ P.2 < C.p ∧ P.2 * P.2 % C.p = (P.1 * P.1 * P.1 + 7) % C.p :=
  (validPoint_iff P).mp (ECC.deserialize_sound H h).1

/-! ### non-vacuity on the toy curve (`y² = x³ + 7` over F₄₃, order 31) -/

example : CurveAbs Toy.ops := Toy.curveAbs

/-- the D8 forgery shape on the toy curve: key `02 00…00`, `r = x(G) = 2`, `s = z` — rejected -/
example : verifyECDSA Toy.ops ((2 : UInt8) :: List.replicate 32 0) (List.replicate 31 0 ++ [5]) 2 5 = .ok false := by
  decide +kernel

end BtcVerif.Props.C05
