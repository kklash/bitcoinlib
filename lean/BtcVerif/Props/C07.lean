/-
  C07 — BIP32 derivation matches the standard; public and private derivation commute.

  All theorems are about the model `Model/Bip32.lean` of /repo/bip32 over
    * an ARBITRARY record of curve operations `C` satisfying the named hypotheses `SecpGroup`
      (commutative group, `k ↦ k·G` a homomorphism, `G` of order exactly `n ≤ 2^256`) and
      `PointCodec` (fixed widths; `DeserializePoint` inverts both serialisations away from
      infinity) — `Proofs/GroupAbs.lean`, shown satisfiable by the toy instance `toy`;
    * an ARBITRARY function `hmac` in place of HMAC-SHA512 of which only `HmacLen` (64-byte output)
      is used.
  The executable instance (`Model.secp` + `Prim.hmacSha512`) is what the correspondence run
  compares with the Go code.

  About the BIP32 "skip" case (`I_L ≥ n` or child `= 0`, probability < 2^-127): the Go code does
  not detect it (it reduces mod n and carries on), and neither does the model. For a *single*
  step the commutation theorem therefore needs no such hypothesis. It is needed — and stated
  explicitly as `noSkip` — for *paths* (an intermediate public key at infinity does not parse),
  and for agreement with the standard (`*_matches_bip32`: the standard's result must be defined).
-/
import BtcVerif.Props.GuardPins.P_bip32
import BtcVerif.Proofs.Bip32

namespace BtcVerif.Props.C07
open BtcVerif BtcVerif.Model BtcVerif.Model.Bip32 BtcVerif.Proofs BtcVerif.Proofs.Bip32

variable {P : Type} {C : CurveOps P} {hmac : Bytes → Bytes → Bytes}

/-- Public and private derivation commute: for a valid parent key `k`, every chain code and every
    non-hardened index, deriving publicly from the parent's public key — in the compressed *or* the
    uncompressed encoding — yields the compressed public key of the privately derived child and the
    same chain code. (False before the D16 repair for the uncompressed encoding.) -/
theorem ckd_commute (S : SecpGroup C) (E : PointCodec C) (hl : HmacLen hmac) (k c : Bytes) (i : Nat)
    (hk : isValidScalar C.n (beNat k) = true) (hi : i < 2 ^ 31) :
    ∃ k' c', ckdPriv C hmac k c i = .ok (k', c') ∧
      ckdPub C hmac (C.compress (C.mulG (beNat k))) c i = .ok (C.compress (C.mulG (beNat k')), c') ∧
      ckdPub C hmac (C.uncompress (C.mulG (beNat k))) c i = .ok (C.compress (C.mulG (beNat k')), c') := by
  have hne := S.mulG_valid_ne_zero hk
  obtain ⟨k', c', h1, h2⟩ := ckd_commute_gen S hl k c i (S.valid_lt hk) hi
  exact ⟨k', c', h1, h2 _ (E.parse_compress _ hne), h2 _ (E.parse_uncompress _ hne)⟩

/-- the same for *any* byte string the library parses to the parent's public point (this covers
    the 32-byte x-only form of a key with even y as well) -/
theorem ckd_commute_any_encoding (S : SecpGroup C) (hl : HmacLen hmac) (k c K : Bytes) (i : Nat)
    (hk : beNat k < 2 ^ 256) (hi : i < 2 ^ 31) (hp : C.parse K = some (C.mulG (beNat k))) :
    ∃ k' c', ckdPriv C hmac k c i = .ok (k', c') ∧
      ckdPub C hmac K c i = .ok (C.compress (C.mulG (beNat k')), c') := by
  obtain ⟨k', c', h1, h2⟩ := ckd_commute_gen S hl k c i hk hi
  exact ⟨k', c', h1, h2 K hp⟩

/-- public derivation through a hardened index is refused with an error, whatever the key -/
theorem ckdPub_hardened_refused (K c : Bytes) (i : Nat) (hi : 2 ^ 31 ≤ i) :
    ckdPub C hmac K c i = .err := ckdPub_hardened K c i hi

/-- a public path that contains a hardened index anywhere never succeeds (it errs at that index, or
    ends earlier) -/
theorem path_hardened_refused (K c : Bytes) (path : List Nat) (h : ∃ i ∈ path, 2 ^ 31 ≤ i) (r : Bytes × Bytes) :
    derivePub C hmac K c path ≠ .ok r := by
  obtain ⟨i, hi, hhard⟩ := h
  rw [derivePub_eq_walk]
  exact walk_ne_ok ⟨i, hi, fun K c r hr => by rw [ckdPub_hardened K c i hhard] at hr; cases hr⟩ K c r

/-- deriving along a path = folding the single step over the path -/
theorem path_fold (k c : Bytes) (path : List Nat) :
    derivePriv C hmac k c path = path.foldl (stepPriv C hmac) (.ok (k, c)) :=
  (derivePriv_eq_walk k c path).trans (walk_foldl k c path)

theorem path_fold_pub (K c : Bytes) (path : List Nat) :
    derivePub C hmac K c path = path.foldl (stepPub C hmac) (.ok (K, c)) :=
  (derivePub_eq_walk K c path).trans (walk_foldl K c path)

/-- the empty path returns the parent unchanged -/
theorem path_nil (k c : Bytes) :
    derivePriv C hmac k c [] = .ok (k, c) ∧ derivePub C hmac k c [] = .ok (k, c) :=
  ⟨derivePriv_eq_walk k c [], derivePub_eq_walk k c []⟩

/-- deriving along `p ++ q` = deriving along `p` and then along `q` -/
theorem path_append (k c : Bytes) (p q : List Nat) :
    derivePriv C hmac k c (p ++ q) = (derivePriv C hmac k c p >>= fun r => derivePriv C hmac r.1 r.2 q) ∧
    derivePub C hmac k c (p ++ q) = (derivePub C hmac k c p >>= fun r => derivePub C hmac r.1 r.2 q) := by
  simp only [derivePriv_eq_walk, derivePub_eq_walk]
  exact ⟨walk_append k c p q, walk_append k c p q⟩

/-- Commutation along a whole non-hardened, non-empty path, from either encoding of the parent,
    under the explicit hypothesis `noSkip` (every index `< 2^31`, every key on the private path is a
    valid scalar — the BIP32 "child = 0" case is excluded). -/
theorem path_commute (S : SecpGroup C) (E : PointCodec C) (hl : HmacLen hmac) (k c : Bytes)
    (path : List Nat) (hk : isValidScalar C.n (beNat k) = true) (hne : path ≠ [])
    (hs : noSkip C hmac k c path = true) :
    ∃ k' c', derivePriv C hmac k c path = .ok (k', c') ∧
      derivePub C hmac (C.compress (C.mulG (beNat k))) c path = .ok (C.compress (C.mulG (beNat k')), c') ∧
      derivePub C hmac (C.uncompress (C.mulG (beNat k))) c path = .ok (C.compress (C.mulG (beNat k')), c') := by
  have hne0 := S.mulG_valid_ne_zero hk
  obtain ⟨k', c', h1, h2⟩ := path_commute_gen S E hl k c path (S.valid_lt hk) hne hs
  exact ⟨k', c', h1, h2 _ (E.parse_compress _ hne0), h2 _ (E.parse_uncompress _ hne0)⟩

/-- every derived private key is exactly 32 bytes, every derived public key exactly 33 bytes, every
    chain code 32 bytes — single steps, non-empty paths and master keys; for every input, including
    keys and children with leading zero bytes -/
theorem lengths (E : PointCodec C) (hl : HmacLen hmac) (k c : Bytes) (r : Bytes × Bytes) :
    (∀ i, ckdPriv C hmac k c i = .ok r → r.1.length = 32 ∧ r.2.length = 32) ∧
    (∀ i, ckdPub C hmac k c i = .ok r → r.1.length = 33 ∧ r.2.length = 32) ∧
    (∀ path, path ≠ [] → derivePriv C hmac k c path = .ok r → r.1.length = 32 ∧ r.2.length = 32) ∧
    (∀ path, path ≠ [] → derivePub C hmac k c path = .ok r → r.1.length = 33 ∧ r.2.length = 32) ∧
    (masterKey hmac k = .ok r → r.1.length = 32 ∧ r.2.length = 32) :=
  ⟨fun _ h => ckdPriv_lengths hl h, fun _ h => ckdPub_lengths E hl h,
   fun _ hne h => walk_last (ckdPriv_lengths hl) hne ((derivePriv_eq_walk ..).symm.trans h),
   fun _ hne h => walk_last (ckdPub_lengths E hl) hne ((derivePub_eq_walk ..).symm.trans h),
   fun h => masterKey_lengths hl h⟩

/-- a seed is accepted exactly when its length is 16..64 bytes and a multiple of 4 -/
theorem master_seed_len (hl : HmacLen hmac) (seed : Bytes) :
    (∃ r, masterKey hmac seed = .ok r) ↔ (16 ≤ seed.length ∧ seed.length ≤ 64 ∧ seed.length % 4 = 0) := by
  refine ⟨fun ⟨r, hr⟩ => Classical.byContradiction fun hn => ?_, fun h => ⟨_, masterKey_ok hl h⟩⟩
  rw [masterKey_eq, if_neg hn] at hr
  cases hr

/-- … and refused with an error (never a panic) otherwise; no hypothesis on `hmac` -/
theorem master_seed_refused (seed : Bytes) :
    masterKey hmac seed = .err ↔ ¬ (16 ≤ seed.length ∧ seed.length ≤ 64 ∧ seed.length % 4 = 0) := by
  rw [masterKey_eq]
  split
  · simp [splitHmac_ne_err, *]
  · simp [*]

/-- the private step returns exactly the key and chain code BIP32's `CKDpriv` defines, whenever
    BIP32 defines one (i.e. outside the "skip" case), for hardened and normal indices -/
theorem ckdPriv_matches_bip32 (S : SecpGroup C) (hl : HmacLen hmac) (k c : Bytes) (i : Nat)
    (hklen : k.length = 32) {k' : Nat} {c' : Bytes}
    (h : Spec.Bip32.ckdPriv C hmac (beNat k) c i = some (k', c')) :
    ckdPriv C hmac k c i = .ok (beBytes 32 k', c') := by
  obtain ⟨IL, ki, cR, hm, hsp⟩ := ckdPriv_vs_spec S hl k c i hklen
  rw [hsp] at h
  split at h
  · cases h
  · injection h with h; injection h with h1 h2
    rw [hm, h1, h2]

/-- the public step returns the compressed encoding of the point BIP32's `CKDpub` defines -/
theorem ckdPub_matches_bip32 [DecidableEq P] (hl : HmacLen hmac) (K c : Bytes) (i : Nat) (Kpar : P)
    (hp : C.parse K = some Kpar) {Ki : P} {ci : Bytes}
    (h : Spec.Bip32.ckdPub C hmac Kpar c i = .child Ki ci) :
    ckdPub C hmac K c i = .ok (C.compress Ki, ci) := by
  unfold Spec.Bip32.ckdPub at h
  by_cases hi : i ≥ 2 ^ 31
  · simp [hi] at h
  · rw [ckdPub_of_parse hl K c i Kpar hp (by omega)]
    simp only [hi, if_false] at h
    split at h
    · cases h
    · injection h with h1 h2
      rw [← h1, ← h2]; rfl

/-- master keys: the bytes returned are `ser256` of BIP32's master secret and its chain code -/
theorem master_matches_bip32 (hl : HmacLen hmac) (seed : Bytes) (h4 : seed.length % 4 = 0)
    {k : Nat} {c : Bytes} (h : Spec.Bip32.master C.n hmac seed = some (k, c)) :
    ∃ kb, masterKey hmac seed = .ok (kb, c) ∧ kb.length = 32 ∧ beNat kb = k := by
  unfold Spec.Bip32.master at h
  split at h
  · cases h
  · simp only [] at h
    split at h
    · cases h
    · injection h with h; injection h with h1 h2
      exact ⟨_, by rw [masterKey_ok hl ⟨by omega, by omega, h4⟩, ← h2]; rfl, by simp [hl _ _], h1⟩

/-- the fingerprint does not depend on the encoding of the key -/
theorem fingerprint_encoding_independent (E : PointCodec C) (hash160 : Bytes → Bytes) (a : P)
    (ha : a ≠ C.zero) :
    keyFingerprint C hash160 (C.uncompress a) = keyFingerprint C hash160 (C.compress a) := by
  rw [keyFingerprint_compress E hash160 a ha, keyFingerprint_uncompress E hash160 a ha]

/-! ### non-vacuity: the hypotheses are satisfiable and the theorems apply to concrete values -/

/-- a toy "HMAC" with 64-byte output that depends on its input -/
def toyHmac (k d : Bytes) : Bytes :=
  List.replicate 31 0 ++ [UInt8.ofNat ((k.length + 3 * d.length + (d.getLastD 0).toNat) % 5)] ++
    List.replicate 32 (k.headD 7)

theorem toyHmac_len : HmacLen toyHmac := by
  intro k d
  simp only [toyHmac, List.length_append, List.length_replicate, List.length_cons, List.length_nil]

example : isValidScalar toy.n (beNat [3]) = true := by decide +kernel
example : noSkip toy toyHmac [3] [1, 2] [0, 5, 1] = true := by decide +kernel
example : ∃ k' c', derivePriv toy toyHmac [3] [1, 2] [0, 5, 1] = .ok (k', c') ∧
    derivePub toy toyHmac (toy.uncompress (toy.mulG (beNat [3]))) [1, 2] [0, 5, 1] =
      .ok (toy.compress (toy.mulG (beNat k')), c') := by
  obtain ⟨k', c', h1, _, h3⟩ :=
    path_commute toyGroup toyCodec toyHmac_len [3] [1, 2] [0, 5, 1] (by decide +kernel) (by simp) (by decide +kernel)
  exact ⟨k', c', h1, h3⟩
example : Spec.Bip32.ckdPriv toy toyHmac (beNat [3]) [1, 2] 0 ≠ none := by decide +kernel

end BtcVerif.Props.C07
