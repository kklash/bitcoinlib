/-
  C03 — signature hashes equal the consensus digests (legacy and BIP143).
  Theorems are about *preimages* (what is double-hashed), so no assumption on SHA-256 is needed; `H`
  is an arbitrary function. The script code after removal of stand-alone OP_CODESEPARATORs is `sc`;
  that `stripOpCode script 0xab = ok sc` implies `sc = Spec.removeStandalone script 0xab` (every
  other byte preserved, pushes in any encoding copied verbatim) is C12's theorem `strip_spec`.
  Non-mutation of the caller's transaction: in the functional model the transaction is an immutable
  value, so the statement lives in the pointer-level model Model/Heap.lean (frame and refinement
  theorems at the end of this file); on the Go side every case compares a deep snapshot before/after.
-/
import BtcVerif.Props.GuardPins.P_bhash
import BtcVerif.Props.GuardPins.P_script
import BtcVerif.Props.GuardPins.P_tx
import BtcVerif.Proofs.SigHash
import BtcVerif.Gen.Facts

namespace BtcVerif.Props.C03
open BtcVerif BtcVerif.Model

/-- SIGHASH_SINGLE with no matching output: the constant 01 followed by 31 zero bytes -/
theorem legacy_single_oob (H : Bytes → Bytes) (tx : Tx) (nIn : Nat) (script : Bytes) (ht : Nat)
    (hs : ht &&& 0x1f = 3) (ho : tx.outputs.length ≤ nIn) :
    legacyDigest H tx nIn script ht = .ok (1 :: List.replicate 31 0) := by
  have h1 : Spec.isSingle ht = true := by simp [Spec.isSingle, Spec.baseType, hs]
  rw [legacyDigest, legacyPre_eq, if_pos (Or.inr ⟨h1, ho⟩)]
  rfl

/-- legacy: the hashed preimage is the consensus preimage, for every transaction, in-range index,
    parseable script code and every 32-bit hash type -/
theorem legacy_preimage_eq (tx : Tx) (nIn : Nat) (script sc : Bytes) (ht : Nat)
    (hn : nIn < tx.inputs.length) (hone : Spec.legacyIsOne tx nIn ht = false)
    (hsc : stripOpCode script opCodeSeparator = .ok sc) :
    legacyPre tx nIn script ht = .ok (.preimage (Spec.legacyPreimage tx nIn sc ht)) := by
  have hso : Spec.isSingle ht = true → nIn < tx.outputs.length := by
    intro h
    simpa [Spec.legacyIsOne, h] using hone
  rw [legacyPre_eq, if_neg fun h => h.elim (Nat.not_le_of_lt hn) fun ⟨h1, h2⟩ => Nat.not_le_of_lt (hso h1) h2,
    hsc, ← legacyBytes_spec tx nIn sc ht hn hso]

/-- hence the digest is `H` of the consensus preimage -/
theorem legacy_digest_eq (H : Bytes → Bytes) (tx : Tx) (nIn : Nat) (script sc : Bytes) (ht : Nat)
    (hn : nIn < tx.inputs.length) (hone : Spec.legacyIsOne tx nIn ht = false)
    (hsc : stripOpCode script opCodeSeparator = .ok sc) :
    legacyDigest H tx nIn script ht = .ok (H (Spec.legacyPreimage tx nIn sc ht)) := by
  unfold legacyDigest
  rw [legacy_preimage_eq tx nIn script sc ht hn hone hsc]

/-- the legacy function may refuse, but only when the script code cannot be parsed … -/
theorem legacy_refuses_only_unparseable (tx : Tx) (nIn : Nat) (script : Bytes) (ht : Nat)
    (h : legacyPre tx nIn script ht = .err) : stripOpCode script opCodeSeparator = .err :=
  (legacyPre_fail tx nIn script ht).1 h

/-- … and it does not panic on an in-range index unless stripping itself does (C12/C17 show it
    does not) -/
theorem legacy_no_panic_of_strip (tx : Tx) (nIn : Nat) (script : Bytes) (ht : Nat)
    (hn : nIn < tx.inputs.length) (h : legacyPre tx nIn script ht = .panic) :
    stripOpCode script opCodeSeparator = .panic :=
  (legacyPre_fail tx nIn script ht).2 h

/-- BIP143: the ten-field preimage for every 32-bit hash type and every amount -/
theorem bip143_preimage_eq (H : Bytes → Bytes) (tx : Tx) (nIn : Nat) (script : Bytes) (ht amount : Nat)
    (hn : nIn < tx.inputs.length) :
    bip143Pre H tx nIn script ht amount
      = .ok (Spec.bip143Preimage H tx tx.inputs[nIn] nIn script ht amount) := by
  unfold bip143Pre Spec.bip143Preimage
  simp only [wflag_none, wflag_single, wflag_acp, Gen.Guards.tx_Tx_SignatureHashForWitnessInput_0,
    Gen.Guards.tx_Tx_SignatureHashForWitnessInput_1, Gen.Guards.tx_Tx_SignatureHashForWitnessInput_2,
    Gen.Guards.tx_Tx_SignatureHashForWitnessInput_3, List.getElem?_eq_getElem hn, encMany, zero32,
    List.append_assoc]
  -- the index panic of `tx.Outputs[nInput]` is guarded by `nInput < len(tx.Outputs)`
  cases hq : tx.outputs[nIn]? with
  | some o =>
    have ho : (nIn : Int) < tx.outputs.length := by have := (List.getElem?_eq_some_iff.mp hq).1; omega
    simp only [ho, decide_true, Bool.and_true, ← apply_ite Outcome.ok]
  | none =>
    have ho : ¬ (nIn : Int) < tx.outputs.length := by have := List.getElem?_eq_none_iff.mp hq; omega
    simp only [ho, decide_false, Bool.and_false, Bool.false_eq_true, if_false, ← apply_ite Outcome.ok, ite_self]

/-- **non-mutation, structural part**, a check of the call and assignment lists that `Gen/Facts.lean`
    extracts from the source on every run. The legacy function's first statement is `tx = tx.Clone()`; every
    assignment it makes is to one of the listed targets (the clone's own fields, `Script`/`Sequence` of its
    inputs, `Value`/`Script` of its outputs); `Clone` calls `vin.Clone()`, `vout.Clone()`, `witness.Clone()`
    and assigns the elements; these call `make` + `copy` (and clone the outpoint); the BIP143 function assigns
    nothing. This is inclusion of strings, neither order nor completeness: a new assignment target or a
    dropped element clone fails it, what the assignments do is the model's part (`Model.Heap.legacyRunWith`),
    and the Go-side deep snapshot comparison covers the rest. -/
theorem clone_structure_pinned :
    -- the first statement rebinds `tx` to the clone: every later assignment through `tx` is to the copy
    Gen.Facts.tx_Tx_SignatureHashForInput_first = "tx = tx.Clone()" ∧
    Gen.Facts.tx_Tx_SignatureHashForInput_calls.head? = some "tx.Clone" ∧
    Gen.Facts.tx_Tx_SignatureHashForInput_assigns.all (fun a =>
      ["tx.Witnesses", "hashed[0]", "tx.Inputs[nInput].Script", "tx.Inputs", "vin.Script", "vin.Sequence",
       "tx.Outputs", "tx.Outputs[i].Value", "tx.Outputs[i].Script"].contains a) = true ∧
    (["vin.Clone", "vout.Clone", "witness.Clone"].all Gen.Facts.tx_Tx_Clone_calls.contains) = true ∧
    (["clone.Inputs[i]", "clone.Outputs[i]", "clone.Witnesses[i]"].all Gen.Facts.tx_Tx_Clone_assigns.contains) = true ∧
    (["i.PrevOut.Clone", "make", "copy"].all Gen.Facts.tx_Input_Clone_calls.contains) = true ∧
    (["make", "copy"].all Gen.Facts.tx_Output_Clone_calls.contains) = true ∧
    (["make", "copy"].all Gen.Facts.tx_Witness_Clone_calls.contains) = true ∧
    Gen.Facts.tx_Tx_SignatureHashForWitnessInput_assigns = [] := by decide +kernel

/-! ### the transaction is never changed: the pointer-level model (Model/Heap.lean)

  `clone_structure_pinned` above checks, against the source, that `SignatureHashForInput` assigns only
  the listed fields and that `Clone` duplicates every input, output and witness object. `Model.Heap.legacyRun`
  performs those assignments on a heap of objects behind addresses. The theorems below say that no
  object that existed before the call is changed by it — for every heap, transaction, index, script
  code and flag combination, nil pointers and aliased pointers (two inputs sharing one object)
  included — and that the depth of the copy is what makes this true. -/

open BtcVerif.Model.Heap in
theorem legacy_never_changes_existing_objects (h : Heap) (tx : TxObj) (nIn : Nat) (sc : Bytes)
    (none single acp : Bool) :
    (∀ a, a < h.ins.length → (legacyRun h tx nIn sc none single acp).1.ins[a]? = h.ins[a]?) ∧
    (∀ a, a < h.outs.length → (legacyRun h tx nIn sc none single acp).1.outs[a]? = h.outs[a]?) :=
  legacyRun_frame h tx nIn sc none single acp

open BtcVerif.Model.Heap in
/-- the transaction the caller's pointer denotes is the same before and after -/
theorem legacy_never_changes_the_transaction (h : Heap) (tx : TxObj) (nIn : Nat) (sc : Bytes)
    (none single acp : Bool)
    (hin : ∀ a ∈ tx.inputs, a < h.ins.length) (hout : ∀ a ∈ tx.outputs, a < h.outs.length) :
    readTx (legacyRun h tx nIn sc none single acp).1 tx = readTx h tx := by
  obtain ⟨pi, po⟩ := legacyRun_frame h tx nIn sc none single acp
  unfold readTx
  rw [readAll_congr _ (fun a => h.ins[a]?) tx.inputs (fun a ha => pi a (hin a ha)),
    readAll_congr _ (fun a => h.outs[a]?) tx.outputs (fun a ha => po a (hout a ha))]

open BtcVerif.Model.Heap in
/-- the depth of the copy is necessary: sharing the output objects (seeded change C03-B) lets
    SIGHASH_SINGLE overwrite the caller's outputs -/
theorem legacy_shallow_copy_changes_the_transaction :
    ∃ (h : Heap) (tx : TxObj),
      (legacyRunWith cloneOutsShallow h tx 1 [] false true false).1.outs[0]? ≠ h.outs[0]? :=
  ⟨⟨[default, default], [⟨5, [0x51]⟩, ⟨7, [0x52]⟩]⟩, ⟨1, [0, 1], [0, 1], false, 0⟩, by decide⟩

open BtcVerif.Model.Heap in
/-- refinement: read back through its pointers, the working copy after the surgery is the modified
    transaction (script code installed, other inputs blanked or dropped, outputs dropped / cut / blanked) -/
theorem legacy_working_copy_is_modified_transaction (h : Heap) (tx : TxObj) (nIn : Nat) (sc : Bytes)
    (none single acp : Bool) (is : List TxIn) (os : List TxOut) (hr : readTx h tx = some (is, os)) :
    readTx (legacyRun h tx nIn sc none single acp).1 (legacyRun h tx nIn sc none single acp).2
      = some (insV is nIn sc (none || single) acp, outsV os nIn none single) := by
  rw [legacyRun_of_valid nIn sc none single acp hr]
  exact readTx_eq_some.mpr ⟨readAll_insW .., readAll_outsW ..⟩

open BtcVerif.Model.Heap BtcVerif.Gen.Guards in
/-- … and that modified transaction is the one the value-level model serialises and hashes (the model
    of `legacy_preimage_eq`, which the correspondence runs against the code) -/
theorem legacy_model_hashes_the_working_copy (tx : Tx) (nIn : Nat) (script sc : Bytes) (ht : Nat) (vin : TxIn)
    (hone : tx_Tx_SignatureHashForInput_0 (nInput := nIn) (len_tx_Inputs := tx.inputs.length)
      (sigHashSingle := tx_Tx_SignatureHashForInput_asg1 ht) (len_tx_Outputs := tx.outputs.length) = false)
    (hs : stripOpCode script opCodeSeparator = .ok sc) (hv : tx.inputs[nIn]? = some vin) :
    legacyPre tx nIn script ht =
      (match encTx { tx with
          inputs := insV tx.inputs nIn sc (tx_Tx_SignatureHashForInput_asg0 ht || tx_Tx_SignatureHashForInput_asg1 ht)
                      (tx_Tx_SignatureHashForInput_asg2 ht),
          outputs := outsV tx.outputs nIn (tx_Tx_SignatureHashForInput_asg0 ht) (tx_Tx_SignatureHashForInput_asg1 ht),
          witnesses := Option.none } false with
       | .ok bs => .ok (.preimage (bs ++ leBytes 4 ht))
       | .err => .err
       | .panic => .panic) := by
  rw [flag_single] at hone
  rw [legacyPre_eq, if_neg (fun hp => Bool.noConfusion (hone.symm.trans ((tx_Tx_SignatureHashForInput_0_iff ..).mpr hp))), hs,
    flag_none, flag_single, flag_acp, encTx_nowit]

/-- non-vacuity: two inputs that share one object, one nil output pointer -/
example : (Model.Heap.legacyRun ⟨[default], [⟨1, []⟩]⟩ ⟨1, [0, 0], [0, 7], false, 0⟩ 1 [0x51] false true false).1.ins.length = 3 := by
  decide

/-! non-vacuity: SIGHASH_SINGLE|ANYONECANPAY on input 1 of a two-input, two-output transaction -/
example : Spec.legacyIsOne ⟨1, [default, default], [default, default], none, 0⟩ 1 0x83 = false := by decide
example : Spec.legacyIsOne ⟨1, [default, default], [default], none, 0⟩ 1 0x83 = true := by decide

end BtcVerif.Props.C03
