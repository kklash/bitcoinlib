/-
  C12 — script pushes, numbers, decompilation and standard templates are consistent.

  The property theorems; the lemmas they rest on are in BtcVerif/Proofs/Script*.lean.  The model
  (`Model/Script.lean`) is the REPAIRED library: `StripOpCode` after D6, `PushNumber`/`ReadNumber`
  after D4.  The reference side (`Spec/Script.lean`) is a transcription of Bitcoin Core's script
  serialisation (`CScript::operator<<`, `CScriptNum::serialize/set_vch`, `push_int64`, `GetScriptOp`,
  the legacy `SerializeScriptCode`) and of the standard output templates.

  Every statement quantifies over all inputs of its domain.  The hypotheses are Go's type bounds
  (`int64`, `[20]byte`, `uint32`), the sizes a push can carry (`len(data) < 2^32`; `PushData` panics
  above), the documented preconditions of `MakeP2MS` (`1 ≤ m ≤ n`) and `RedeemP2MS` (at least one
  signature), and `keys.length < 2^31` in `p2ms_spec`, which is more than any script can hold.
-/
import BtcVerif.Props.GuardPins.P_script
import BtcVerif.Proofs.Script
import BtcVerif.Proofs.ScriptNum
import BtcVerif.Proofs.ScriptTpl

namespace BtcVerif.Props.C12
open BtcVerif BtcVerif.Model BtcVerif.Parser BtcVerif.Proofs.Script
open BtcVerif.Spec.Script (Item lenWidth lenField parse serialize removeStandalone scriptNum
  scriptNumBytes scriptNumValue)

/-- `PushData` is the reference (smallest-form) push, for every payload a push can carry. -/
theorem pushData_eq_spec (d : Bytes) (h : d.length < 2 ^ 32) :
    pushData d = .ok (Spec.Script.push d) := Proofs.Script.pushData_eq_spec d h

/-- Reading back what `PushData` built returns the payload and leaves the rest of the stream. -/
theorem read_push (d rest : Bytes) (h : d.length < 2 ^ 32) :
    ∃ p, pushData d = .ok p ∧ readData (p ++ rest) = .ok (d, rest) := by
  exact ⟨_, Proofs.Script.pushData_eq_spec d h, readData_push d rest h⟩

/-- `ReadData` reads every push form whose opcode can express the length — minimal or not. -/
theorem read_any_push_form (b : UInt8) (d rest : Bytes) (hb : b.toNat ≤ 0x4e)
    (h0 : lenWidth b = 0 → d.length = b.toNat) (h1 : lenWidth b ≠ 0 → d.length < 256 ^ lenWidth b) :
    readData (b :: (lenField (lenWidth b) d.length ++ d ++ rest)) = .ok (d, rest) :=
  readData_encoding b d rest hb h0 h1

/-- No push encoding of the same payload is shorter than the one `PushData` emits. -/
theorem push_minimal (d : Bytes) (h : d.length < 2 ^ 32) (b : UInt8) (hb : b.toNat ≤ 0x4e)
    (h0 : lenWidth b = 0 → d.length = b.toNat) (h1 : lenWidth b ≠ 0 → d.length < 256 ^ lenWidth b) :
    (Spec.Script.push d).length ≤ (b :: (lenField (lenWidth b) d.length ++ d)).length :=
  Proofs.Script.push_minimal d h b hb h0 h1

example : ([0xaa, 0xbb] : Bytes).length < 2 ^ 32 := by decide
example : (0x4c : UInt8).toNat ≤ 0x4e ∧ (lenWidth 0x4c = 0 → ([0xaa, 0xbb] : Bytes).length = (0x4c : UInt8).toNat) ∧
    (lenWidth 0x4c ≠ 0 → ([0xaa, 0xbb] : Bytes).length < 256 ^ lenWidth 0x4c) := by decide

/-- `PushNumber` is `CScript::push_int64` for EVERY int64, `math.MinInt64` included (D4). -/
theorem pushNumber_eq_spec (n : Int) (hlo : -(2 ^ 63 : Int) ≤ n) (hhi : n < 2 ^ 63) :
    pushNumber n = .ok (scriptNum n) := Proofs.Script.pushNumber_eq_spec n hlo hhi

/-- Reference level: decoding the serialised number gives the number back (all integers). -/
theorem scriptNum_value_bytes (n : Int) : scriptNumValue (scriptNumBytes n) = n := by
  by_cases h0 : n = 0
  · subst h0; rfl
  · obtain ⟨pre, b, e, hv, hs, -⟩ := scriptNumBytes_shape n h0
    rw [e, scriptNumValue_append_single, hv, decide_eq_decide.mpr hs]
    exact signed_natAbs n

/-- The decoding step of `ReadNumber` in closed form: the `CScriptNum::set_vch` value of the pushed
    string, accepted exactly when the string has at most nine bytes and the value fits an int64. -/
theorem readNumber_decode_spec (d : Bytes) :
    decodeNum d =
      if d.length ≤ 9 ∧ -(2 ^ 63 : Int) ≤ scriptNumValue d ∧ scriptNumValue d < 2 ^ 63
      then .ok (scriptNumValue d) else .err := by
  rcases List.eq_nil_or_concat d with rfl | ⟨pre, b, rfl⟩
  · exact decodeNum_nil
  · rw [List.concat_eq_append, decodeNum_concat, scriptNumValue_append_single]
    have e : pre.length + 1 ≤ 9 ↔ pre.length ≤ 8 := by omega
    simp only [List.length_append, List.length_singleton, e]

/-- `ReadNumber` reads back what `PushNumber` wrote, for every int64, leaving the rest. -/
theorem read_pushNumber (n : Int) (rest : Bytes) (hlo : -(2 ^ 63 : Int) ≤ n) (hhi : n < 2 ^ 63) :
    ∃ p, pushNumber n = .ok p ∧ readNumber (p ++ rest) = .ok (n, rest) := by
  refine ⟨scriptNum n, Proofs.Script.pushNumber_eq_spec n hlo hhi, ?_⟩
  unfold scriptNum
  by_cases c0 : n = -1
  · subst c0; rfl
  by_cases c1 : n = 0
  · subst c1; rfl
  rw [if_neg c0, if_neg c1]
  by_cases c2 : 1 ≤ n ∧ n ≤ 16
  · rw [if_pos c2, List.singleton_append, readNumber_small n.toNat (by omega) (by omega),
      Int.toNat_of_nonneg (by omega)]
  · obtain ⟨l1, l9⟩ := scriptNumBytes_length n hlo hhi c1
    rw [if_neg c2, readNumber_direct _ rest l1 l9, readNumber_decode_spec, scriptNum_value_bytes,
      if_pos ⟨l9, hlo, hhi⟩]
    rfl

example : -(2 ^ 63 : Int) ≤ -9223372036854775808 ∧ (-9223372036854775808 : Int) < 2 ^ 63 := by decide

/-- `Decompile` yields exactly the opcode/push sequence of the script (the reference parser's item
    list with the push opcodes forgotten) and fails exactly when that parser fails. -/
theorem decompile_spec (s : Bytes) (cs : List Chunk) :
    decompile s = .ok cs ↔ ∃ items, parse s = some items ∧ cs = items.map toChunk :=
  Proofs.Script.decompile_spec s cs

/-- The reference parser is the inverse of concatenating well-formed items: a script has an item
    list exactly when it IS the concatenation of well-formed items, and then the list is unique. -/
theorem parse_iff_serialize (s : Bytes) (items : List Item) :
    parse s = some items ↔ (serialize items = s ∧ ∀ i ∈ items, i.valid = true) :=
  ⟨parse_sound s items, fun ⟨e, hv⟩ => e ▸ parse_serialize items hv⟩

theorem decompile_fails_iff (s : Bytes) : decompile s = .err ↔ parse s = none := by
  rw [decompile_eq]
  exact liftOpt_eq_err

theorem decompile_no_panic (s : Bytes) : decompile s ≠ .panic := decompile_ne_panic s

/-- `strip_spec` (shared with C03): when `StripOpCode` returns a script, it is the consensus script code
    (on a push that is cut short it fails, `strip_fails_iff`, where the consensus code copies the rest). -/
theorem strip_spec {s s' : Bytes} {op : UInt8} (h : stripOpCode s op = .ok s') :
    s' = Spec.removeStandalone s op := Proofs.Script.strip_spec h

/-- `strip_preserves_pushes`: on every well-formed script the result is the concatenation of all
    items except the stand-alone occurrences of `op` — every push byte for byte in its original
    (possibly non-minimal) encoding, bytes equal to `op` inside push data untouched (D6). -/
theorem strip_preserves_pushes (items : List Item) (hv : ∀ i ∈ items, i.valid = true) (op : UInt8) :
    stripOpCode (serialize items) op = .ok (serialize (items.filter (fun i => i ≠ Item.op op))) := by
  rw [stripOpCode_eq, stripRef, parse_serialize items hv, remove_serialize items hv]
  rfl

/-- `StripOpCode` fails exactly on scripts with a push running past the end; it never panics. -/
theorem strip_fails_iff (s : Bytes) (op : UInt8) : stripOpCode s op = .err ↔ parse s = none := by
  rw [stripOpCode_eq]
  exact liftOpt_eq_err

theorem strip_no_panic (s : Bytes) (op : UInt8) : stripOpCode s op ≠ .panic := strip_ne_panic s op

example : ∀ i ∈ [Item.push 0x4c [0xaa, 0xbb], Item.op 0xab, Item.op 0xac], i.valid = true := by decide
example : stripOpCode [0x4c, 2, 0xaa, 0xab, 0xab, 0xac] 0xab = .ok [0x4c, 2, 0xaa, 0xab, 0xac] := by decide

theorem make_p2pkh (h : Bytes) (hl : h.length = 20) : makeP2PKH h = .ok (Spec.Script.p2pkh h) := by
  simp [makeP2PKH, Proofs.Script.pushData_eq_spec h (by omega), Spec.Script.push, hl, Outcome.bind,
    opByte, Spec.Script.p2pkh, Gen.constants_OP_DUP, Gen.constants_OP_HASH160,
    Gen.constants_OP_EQUALVERIFY, Gen.constants_OP_CHECKSIG]
theorem make_p2sh (h : Bytes) (hl : h.length = 20) : makeP2SH h = .ok (Spec.Script.p2sh h) := by
  simp [makeP2SH, Proofs.Script.pushData_eq_spec h (by omega), Spec.Script.push, hl, Outcome.bind,
    opByte, Spec.Script.p2sh, Gen.constants_OP_HASH160, Gen.constants_OP_EQUAL]
theorem make_p2wpkh (h : Bytes) (hl : h.length = 20) : makeP2WPKH h = .ok (Spec.Script.p2wpkh h) := by
  simp [makeP2WPKH, makeWitnessProgram, Proofs.Script.pushData_eq_spec h (by omega),
    Spec.Script.push, hl, Outcome.bind, opByte, Spec.Script.p2wpkh, Gen.constants_OP_0]
theorem make_p2wsh (h : Bytes) (hl : h.length = 32) : makeP2WSH h = .ok (Spec.Script.p2wsh h) := by
  simp [makeP2WSH, makeWitnessProgram, Proofs.Script.pushData_eq_spec h (by omega),
    Spec.Script.push, hl, Outcome.bind, opByte, Spec.Script.p2wsh, Gen.constants_OP_0]

/-- `is_iff_template`: a recogniser answers true exactly on the builder's outputs. -/
theorem is_iff_template_p2pkh (s : Bytes) :
    isP2PKH s = .ok true ↔ ∃ h, h.length = 20 ∧ makeP2PKH h = .ok s :=
  (isP2PKH_iff s).trans (template_iff_make make_p2pkh s)

theorem is_iff_template_p2sh (s : Bytes) :
    isP2SH s = .ok true ↔ ∃ h, h.length = 20 ∧ makeP2SH h = .ok s :=
  (isP2SH_iff s).trans (template_iff_make make_p2sh s)

theorem is_iff_template_p2wpkh (s : Bytes) :
    isP2WPKH s = .ok true ↔ ∃ h, h.length = 20 ∧ makeP2WPKH h = .ok s :=
  (isP2WPKH_iff s).trans (template_iff_make make_p2wpkh s)

theorem is_iff_template_p2wsh (s : Bytes) :
    isP2WSH s = .ok true ↔ ∃ h, h.length = 32 ∧ makeP2WSH h = .ok s :=
  (isP2WSH_iff s).trans (template_iff_make make_p2wsh s)

/-- recognisers never panic: every byte string gets a definite answer -/
theorem recognisers_total (s : Bytes) :
    (isP2PKH s = .ok true ∨ isP2PKH s = .ok false) ∧ (isP2SH s = .ok true ∨ isP2SH s = .ok false) ∧
    (isP2WPKH s = .ok true ∨ isP2WPKH s = .ok false) ∧ (isP2WSH s = .ok true ∨ isP2WSH s = .ok false) :=
  ⟨ok_total (isP2PKH_eq s), ok_total (isP2SH_eq s), ok_total (isP2WPKH_eq s), ok_total (isP2WSH_eq s)⟩

/-- `decode_make`: the decoder returns the hash the builder committed to. -/
theorem decode_make_p2pkh (h : Bytes) (hl : h.length = 20) :
    ∃ s, makeP2PKH h = .ok s ∧ decodeP2PKH s = .ok h :=
  ⟨_, make_p2pkh h hl, decodeWith_ok ((isP2PKH_iff _).mpr ⟨h, hl, rfl⟩)
    (sliceOf_template [0x76, 0xa9, 0x14] h [0x88, 0xac] rfl (by rw [hl]))⟩
theorem decode_make_p2sh (h : Bytes) (hl : h.length = 20) :
    ∃ s, makeP2SH h = .ok s ∧ decodeP2SH s = .ok h :=
  ⟨_, make_p2sh h hl, decodeWith_ok ((isP2SH_iff _).mpr ⟨h, hl, rfl⟩)
    (sliceOf_template [0xa9, 0x14] h [0x87] rfl (by rw [hl]))⟩
theorem decode_make_p2wpkh (h : Bytes) (hl : h.length = 20) :
    ∃ s, makeP2WPKH h = .ok s ∧ decodeP2WPKH s = .ok h :=
  ⟨_, make_p2wpkh h hl, decodeWith_ok ((isP2WPKH_iff _).mpr ⟨h, hl, rfl⟩)
    (sliceOf_prefix_template [0x00, 0x14] h rfl (by rw [hl]))⟩
theorem decode_make_p2wsh (h : Bytes) (hl : h.length = 32) :
    ∃ s, makeP2WSH h = .ok s ∧ decodeP2WSH s = .ok h :=
  ⟨_, make_p2wsh h hl, decodeWith_ok ((isP2WSH_iff _).mpr ⟨h, hl, rfl⟩)
    (sliceOf_prefix_template [0x00, 0x20] h rfl (by rw [hl]))⟩

/-- decoders refuse everything that is not the template -/
theorem decode_rejects (s : Bytes) :
    ((¬ ∃ x, x.length = 20 ∧ s = Spec.Script.p2pkh x) → decodeP2PKH s = .err) ∧
    ((¬ ∃ x, x.length = 20 ∧ s = Spec.Script.p2sh x) → decodeP2SH s = .err) ∧
    ((¬ ∃ x, x.length = 20 ∧ s = Spec.Script.p2wpkh x) → decodeP2WPKH s = .err) ∧
    ((¬ ∃ x, x.length = 32 ∧ s = Spec.Script.p2wsh x) → decodeP2WSH s = .err) :=
  ⟨fun h => decodeWith_err (isP2PKH_eq s) (mt (isP2PKH_iff s).mp h) 3 23,
   fun h => decodeWith_err (isP2SH_eq s) (mt (isP2SH_iff s).mp h) 2 22,
   fun h => decodeWith_err (isP2WPKH_eq s) (mt (isP2WPKH_iff s).mp h) 2 22,
   fun h => decodeWith_err (isP2WSH_eq s) (mt (isP2WSH_iff s).mp h) 2 34⟩

/-- `ClassifyOutput` names a template exactly when its recogniser accepts, NONSTANDARD otherwise -/
theorem classify_spec (s : Bytes) :
    (classify s = .ok .p2pkh ↔ isP2PKH s = .ok true) ∧
    (classify s = .ok .p2sh ↔ isP2SH s = .ok true) ∧
    (classify s = .ok .p2wpkh ↔ isP2WPKH s = .ok true) ∧
    (classify s = .ok .p2wsh ↔ isP2WSH s = .ok true) ∧
    (classify s = .ok .nonstandard ↔
      (isP2PKH s = .ok false ∧ isP2SH s = .ok false ∧ isP2WPKH s = .ok false ∧ isP2WSH s = .ok false)) := by
  rw [classify_eq (isP2PKH_eq s) (isP2SH_eq s) (isP2WPKH_eq s) (isP2WSH_eq s),
    isP2PKH_eq, isP2SH_eq, isP2WPKH_eq, isP2WSH_eq]
  simp only [Outcome.ok.injEq, decide_eq_true_eq, decide_eq_false_iff_not]
  -- in each branch of the chain the length of `s` is known, and the four lengths differ
  split
  · next h => simp [h]
  split
  · next h => simp [h]
  split
  · next h => simp [h]
  split
  · next h => simp [h]
  · next h1 h2 h3 h4 => simp [h1, h2, h3, h4]

/-- `classify_unambiguous`: at most one recogniser accepts any byte string (lengths 25/23/22/34) -/
theorem classify_unambiguous (s : Bytes) : acceptCount s ≤ 1 := by
  obtain ⟨h1, h2, h3, h4, -⟩ := classify_spec s
  unfold acceptCount
  -- each summand asks whether `classify s` is one particular format
  simp only [← h1, ← h2, ← h3, ← h4]
  cases classify s with
  | ok f => cases f <;> decide
  | err => decide
  | panic => decide

example : (List.replicate 20 (0x11 : UInt8)).length = 20 := by decide

/-- `p2ms_spec`: `m <key>… n OP_CHECKMULTISIG` for every `1 ≤ m ≤ n < 2^31` (no limit of 20 keys is
    applied). -/
theorem p2ms_spec (m : Nat) (keys : List Bytes) (hm : 1 ≤ m) (hmn : m ≤ keys.length)
    (hn : keys.length < 2 ^ 31) (hk : ∀ k ∈ keys, k.length < 2 ^ 32) :
    makeP2MS m keys = .ok (Spec.Script.multisig m keys) := by
  have g1 : Gen.Guards.script_MakeP2MS_1 (sigsRequired := m) = false := by
    simp [Gen.Guards.script_MakeP2MS_1]; omega
  rw [makeP2MS, makeP2MS_guard0 m _ (by omega), g1, if_neg (by simpa using hmn), if_neg (by decide),
    Proofs.Script.pushNumber_eq_spec m (by omega) (by omega),
    Proofs.Script.pushNumber_eq_spec keys.length (by omega) (by omega), pushAll_eq_spec keys hk]
  simp [Outcome.bind, Spec.Script.multisig, opByte, Gen.constants_OP_CHECKMULTISIG]

/-- `MakeP2MS` panics (as documented) outside `1 ≤ m ≤ n`; inside it does not, by `p2ms_spec`. -/
theorem p2ms_panics (m : Nat) (keys : List Bytes) (hm32 : m < 2 ^ 32) (h : m = 0 ∨ keys.length < m) :
    makeP2MS m keys = .panic := by
  rw [makeP2MS, makeP2MS_guard0 m _ hm32]
  by_cases hlt : keys.length < m
  · rw [if_pos (by simpa using hlt)]
  · have g1 : Gen.Guards.script_MakeP2MS_1 (sigsRequired := m) = true := by
      simp [Gen.Guards.script_MakeP2MS_1]; omega
    rw [if_neg (by simpa using hlt), g1, if_pos rfl]

/-- `opreturn_spec`: `OP_RETURN <payload>` up to 80 bytes, an error above. -/
theorem opreturn_spec (payload : Bytes) :
    makeOpReturn payload = if payload.length ≤ 80 then .ok (Spec.Script.opReturn payload) else .err := by
  have g : Gen.Guards.script_MakeOpReturn_0 (len_payload := payload.length) =
      decide (80 < payload.length) := by
    simp [Gen.Guards.script_MakeOpReturn_0]; omega
  rw [makeOpReturn, g]
  by_cases h : payload.length ≤ 80
  · rw [if_neg (by simpa using h), if_pos h, Proofs.Script.pushData_eq_spec payload (by omega)]
    simp [Outcome.bind, Spec.Script.opReturn, opByte, Gen.constants_OP_RETURN]
  · rw [if_pos (by simpa using h), if_neg h]

theorem redeem_p2pkh (sig pk : Bytes) (h1 : sig.length < 2 ^ 32) (h2 : pk.length < 2 ^ 32) :
    redeemP2PKH sig pk = .ok (Spec.Script.push sig ++ Spec.Script.push pk) := by
  simp [redeemP2PKH, Proofs.Script.pushData_eq_spec sig h1, Proofs.Script.pushData_eq_spec pk h2,
    Outcome.bind]

theorem redeem_p2sh (spk redeem : Bytes) (h : spk.length < 2 ^ 32) :
    redeemP2SH spk redeem = .ok (redeem ++ Spec.Script.push spk) := by
  simp [redeemP2SH, Proofs.Script.pushData_eq_spec spk h, Outcome.bind]

theorem redeem_p2ms (sigs : List Bytes) (hne : sigs ≠ []) (h : ∀ s ∈ sigs, s.length < 2 ^ 32) :
    redeemP2MS sigs = .ok (0x00 :: (sigs.map Spec.Script.push).flatten) := by
  have g : Gen.Guards.script_RedeemP2MS_0 (len_signatures := sigs.length) = false := by
    cases sigs with
    | nil => exact absurd rfl hne
    | cons _ _ => simp [Gen.Guards.script_RedeemP2MS_0]; omega
  rw [redeemP2MS, g, if_neg (by decide), pushAll_eq_spec sigs h]
  simp [Outcome.bind, opByte, Gen.constants_OP_0]

/-- `Stackify` (and with it `WitnessP2WSH`) works on exactly the item list of the script. -/
theorem stackify_spec (s : Bytes) (st : List Bytes) :
    stackify s = .ok st ↔ ∃ items, parse s = some items ∧ stackItems (items.map toChunk) = .ok st := by
  rw [stackify, decompile_eq]
  cases parse s <;> simp [liftOpt, Outcome.bind]

/-- the stack items of a list of data pushes are exactly the pushed strings -/
theorem stackify_pushes (ds : List (UInt8 × Bytes)) :
    stackItems ((ds.map fun p => Item.push p.1 p.2).map toChunk) = .ok (ds.map (·.2)) := by
  induction ds with
  | nil => rfl
  | cons d ds ih =>
    simp only [List.map_cons, List.map_map] at ih ⊢
    simp only [stackItems, stackItem, toChunk, Outcome.bind]
    rw [ih]

/-- builders from a public key: standard key lengths only, then the template over its hash
    (`h160` stands for `bhash.Hash160`, any function with 20-byte results) -/
theorem make_p2pkh_from_key (h160 : Bytes → Bytes) (hh : ∀ x, (h160 x).length = 20) (pk : Bytes) :
    makeP2PKHFromPublicKey h160 pk =
      if pk.length = 33 ∨ pk.length = 65 then .ok (Spec.Script.p2pkh (h160 pk)) else .err := by
  have e33 : (pk.length : Int) = 33 ↔ pk.length = 33 := by omega
  have e65 : (pk.length : Int) = 65 ↔ pk.length = 65 := by omega
  simp only [makeP2PKHFromPublicKey, Gen.Guards.script_MakeP2PKHFromPublicKey_0, make_p2pkh _ (hh pk),
    ne_eq, e33, e65]
  by_cases h33 : pk.length = 33 <;> by_cases h65 : pk.length = 65 <;> simp [h33, h65]

theorem make_p2wpkh_from_key (h160 : Bytes → Bytes) (hh : ∀ x, (h160 x).length = 20) (pk : Bytes) :
    makeP2WPKHFromPublicKey h160 pk =
      if pk.length = 33 then .ok (Spec.Script.p2wpkh (h160 pk)) else .err := by
  have e33 : (pk.length : Int) = 33 ↔ pk.length = 33 := by omega
  simp only [makeP2WPKHFromPublicKey, Gen.Guards.script_MakeP2WPKHFromPublicKey_0,
    make_p2wpkh _ (hh pk), ne_eq, e33]
  by_cases h33 : pk.length = 33 <;> simp [h33]

example : ∀ x : Bytes, ((fun _ => List.replicate 20 (0 : UInt8)) x).length = 20 := by intro; simp

example : (1 : Nat) ≤ 2 ∧ 2 ≤ ([[0x02], [0x03], [0x04]] : List Bytes).length := by decide

end BtcVerif.Props.C12
