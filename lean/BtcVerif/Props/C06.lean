/-
  C06 — public keys, point encodings, ECDH and key sums agree with secp256k1.

  Property theorems (helper lemmas: `Proofs/ECC.lean`, `Proofs/ECCGroup.lean`). The model
  `Model/ECC.lean` is generic over the record `C : CurveOps` of curve operations (instantiated with
  the independent `Prim.Secp256k1` in the oracle executable, where it is compared with the Go
  code); the theorems hold for EVERY `C` satisfying the named hypotheses

    `FieldHyp C`  (p odd, 7 < p < 2^256, SqrtComplete, SqrtUnique, 7 is no square, −7 no cube mod p)
    `CurveAbs C`  (SecpGroup + XOnly: commutative group with coordinates, generator of exact
                   order n, `add`/`mul`/`invN` compute the group law / inverse mod n)

  which are structure arguments, never axioms, and are instantiated at the end of this file by the
  curve `y² = x³ + 7` over F₄₃ (`Proofs/CurveAbsToy.lean`). Theorems that need no hypothesis say so.
  Inputs are quantified without size bounds, except the two ECDH scalars (`< 2^256`, a hypothesis).
-/
import BtcVerif.Props.GuardPins.P_ecc
import BtcVerif.Proofs.ECCGroup
import BtcVerif.Proofs.CurveAbsToy

namespace BtcVerif.Props.C06
open BtcVerif BtcVerif.Model.ECC BtcVerif.Proofs BtcVerif.Proofs.ECC
open BtcVerif.Spec.ECC (validPoint parsePoint encodeCompressed encodeUncompressed encodeXOnly
  IsStandardEncoding)

variable {C : CurveOps}

/-- for every scalar in [1, n-1] (given as a byte string of any length) the compressed,
    uncompressed and x-only public keys are the standard encodings of `k·G` -/
theorem public_keys_eq_reference (H : CurveAbs C) (priv : Bytes)
    (hv : isValidScalar C (beNat priv) = true) :
    getPublicKeyCompressed C priv = .ok (encodeCompressed (H.xy (beNat priv • H.G))) ∧
    getPublicKeyUncompressed C priv = .ok (encodeUncompressed (H.xy (beNat priv • H.G))) ∧
    getPublicKeySchnorr C priv = .ok (encodeXOnly (H.xy (beNat priv • H.G))) :=
  ⟨getPublicKeyCompressed_spec H priv hv, getPublicKeyUncompressed_spec H priv hv,
   getPublicKeySchnorr_spec H priv hv⟩

/-- the decoder is the reference parser (SEC 1 §2.3.4 + BIP340 `lift_x`), on every byte string -/
theorem deserialize_eq_reference_parser (H : FieldHyp C) (bs : Bytes) :
    deserializePoint C bs = (match parsePoint C bs with | some P => .ok P | none => .err) := by
  rw [deserializePoint_eq_spec H]; cases parsePoint C bs <;> rfl

/-- accepted ⇔ one of the three standard encodings of a finite curve point with reduced coordinates -/
theorem accepts_iff_standard_encoding (H : FieldHyp C) (bs : Bytes) (P : Pt) :
    deserializePoint C bs = .ok P ↔ IsStandardEncoding C bs P := deserializePoint_ok_iff H bs P

/-- hypothesis-free: whatever the curve operations compute, a decoded point has no zero
    coordinate — it is never ekliptic's point at infinity `(0,0)` (false before the D8 repair) -/
theorem deserialize_never_infinity {bs : Bytes} {P : Pt} (h : deserializePoint C bs = .ok P) :
    P ≠ (0, 0) ∧ P.1 ≠ 0 ∧ P.2 ≠ 0 := by
  have := ECC.deserialize_never_infinity h
  exact ⟨fun h0 => this.1 (by rw [h0]), this⟩

/-- a decoded point has coordinates `< p` and satisfies `y² = x³ + 7` -/
theorem deserialize_sound (H : FieldHyp C) {bs : Bytes} {P : Pt} (h : deserializePoint C bs = .ok P) :
    P.1 < C.p ∧ P.2 < C.p ∧ P.2 * P.2 % C.p = (P.1 * P.1 * P.1 + 7) % C.p :=
  (validPoint_iff P).mp (ECC.deserialize_sound H h).1

theorem deserialize_no_panic (H : FieldHyp C) (bs : Bytes) : deserializePoint C bs ≠ .panic :=
  deserializePoint_ne_panic bs

/-- every finite curve point serialises (no panic) to its standard encodings and decodes back -/
theorem serialize_deserialize (H : FieldHyp C) {P : Pt} (h : validPoint C P = true) :
    (serializeCompressed C P >>= deserializePoint C) = .ok P ∧
    (serializeUncompressed C P >>= deserializePoint C) = .ok P ∧
    (P.2 % 2 = 0 → (fillBytes32 P.1 >>= deserializePoint C) = .ok P) := ECC.serialize_deserialize H h

/-- re-encoding a decoded point in the format it came in reproduces the input -/
theorem deserialize_serialize (H : FieldHyp C) {bs : Bytes} {P : Pt} (h : deserializePoint C bs = .ok P) :
    (bs.length = 33 → serializeCompressed C P = .ok bs) ∧
    (bs.length = 65 → serializeUncompressed C P = .ok bs) ∧
    (bs.length = 32 → fillBytes32 P.1 = .ok bs ∧ P.2 % 2 = 0) := by
  obtain ⟨hv, henc⟩ := (deserializePoint_ok_iff H bs P).mp h
  have hx := Nat.lt_trans ((validPoint_iff P).mp hv).1 H.p_lt
  rcases henc with rfl | rfl | ⟨rfl, he⟩
  · rw [encodeCompressed_length]
    exact ⟨fun _ => serializeCompressed_valid H hv, by omega, by omega⟩
  · rw [encodeUncompressed_length]
    exact ⟨by omega, fun _ => serializeUncompressed_valid H hv, by omega⟩
  · rw [encodeXOnly_length]
    exact ⟨by omega, by omega, fun _ => ⟨fillBytes32_lt hx, he⟩⟩

/-- compress ∘ uncompress ∘ compress = compress, and compress is idempotent -/
theorem compress_uncompress_inverse (H : FieldHyp C) {pub c : Bytes} (h : compressPublicKey C pub = .ok c) :
    ∃ u, uncompressPublicKey C c = .ok u ∧ compressPublicKey C u = .ok c ∧ compressPublicKey C c = .ok c :=
  ECC.compress_uncompress_inverse H h

theorem uncompress_compress_inverse (H : FieldHyp C) {pub u : Bytes} (h : uncompressPublicKey C pub = .ok u) :
    ∃ c, compressPublicKey C u = .ok c ∧ uncompressPublicKey C c = .ok u ∧ uncompressPublicKey C u = .ok u :=
by
  obtain ⟨P, hd, rfl⟩ := (uncompressPublicKey_eq_ok H).mp h
  obtain ⟨_, cu, uc, uu⟩ := recode_encoded H (ECC.deserialize_sound H hd).1
  exact ⟨_, cu, uc, uu⟩

/-- secret(a, b·G) = secret(b, a·G) = x((ab)·G), for all 256-bit scalars, without panic -/
theorem ecdh_symm (H : CurveAbs C) (a b : Nat) (ha : a < 2 ^ 256) (hb : b < 2 ^ 256) :
    sharedSecret C a (H.xy (b • H.G)) = .ok (beBytes 32 (H.xy ((a * b) • H.G)).1) ∧
    sharedSecret C b (H.xy (a • H.G)) = .ok (beBytes 32 (H.xy ((a * b) • H.G)).1) :=
  ECC.ecdh_symm H a b ha hb

/-- the sum of valid private keys is the 32-byte scalar (Σ keys) mod n (false before the D9 repair) -/
theorem sumPriv_spec (hn : 0 < C.n) (hn2 : C.n ≤ 2 ^ 256) (ks : List Bytes)
    (h : ∀ k ∈ ks, isValidScalar C (beNat k) = true) :
    sumPrivateKeys C ks = .ok (beBytes 32 ((ks.map beNat).sum % C.n)) := by
  rw [sumPrivateKeys_eq, if_pos h, fillBytes32_lt (Nat.lt_of_lt_of_le (Nat.mod_lt _ hn) hn2)]

/-- no list of byte strings makes SumPrivateKeys panic (false before the D9 repair) -/
theorem sumPriv_no_panic (hn : 0 < C.n) (hn2 : C.n ≤ 2 ^ 256) (ks : List Bytes) :
    sumPrivateKeys C ks ≠ .panic := by
  rw [sumPrivateKeys_eq]
  split
  · rw [fillBytes32_lt (Nat.lt_of_lt_of_le (Nat.mod_lt _ hn) hn2)]
    nofun
  · nofun

/-- one invalid key (0 or ≥ n) makes the whole sum an error -/
theorem sumPriv_rejects_invalid (ks : List Bytes) (h : ∃ k ∈ ks, isValidScalar C (beNat k) = false) :
    sumPrivateKeys C ks = .err := by
  obtain ⟨k, hk, hv⟩ := h
  rw [sumPrivateKeys_eq, if_neg fun hall => Bool.noConfusion ((hall k hk).symm.trans hv)]

/-- the sum of x-only keys of points with even y is the x coordinate of their group sum -/
theorem sumPub_spec (H : CurveAbs C) (Ps : List H.Pt) (h : ∀ P ∈ Ps, P ≠ 0 ∧ (H.xy P).2 % 2 = 0) :
    sumPublicKeys C (Ps.map (fun P => encodeXOnly (H.xy P))) = .ok (beBytes 32 (H.xy Ps.sum).1) := by
  unfold sumPublicKeys
  rw [← H.xy_zero, sumPubLoop_spec H Ps 0 h, Outcome.bind_ok, zero_add, fillBytes32_lt (xy_fst_lt H _)]

/-- NewPrivateKey returns 32 bytes holding a scalar in [1, n-1], for every random stream -/
theorem newPrivateKey_range (hn2 : C.n ≤ 2 ^ 256) (stream k : Bytes) (h : newPrivateKey C stream = .ok k) :
    k.length = 32 ∧ 1 ≤ beNat k ∧ beNat k < C.n :=
  newPrivateKeyLoop_range _ stream k h

/-! ### non-vacuity: the hypotheses hold for `y² = x³ + 7` over F₄₃ (order 31), and the theorems
    say something there -/

example : FieldHyp Toy.ops := Toy.fieldHyp
example : CurveAbs Toy.ops := Toy.curveAbs

/-- `5·G` on the toy curve: its compressed encoding is accepted and decodes to the point -/
example : deserializePoint Toy.ops (encodeCompressed (Toy.tbl 5)) = .ok (Toy.tbl 5) :=
  (accepts_iff_standard_encoding Toy.fieldHyp _ _).mpr ⟨by decide, Or.inl rfl⟩

example : isValidScalar Toy.ops (beNat [0, 17]) = true := by decide
example : ∀ k ∈ [[(30 : UInt8)], [2]], isValidScalar Toy.ops (beNat k) = true := by decide
example : sumPrivateKeys Toy.ops [[30], [2]] = .ok (beBytes 32 1) :=
  sumPriv_spec (by decide) (by decide) _ (by decide)

end BtcVerif.Props.C06
