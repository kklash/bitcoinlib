/-
  C15 — the UTXO set and value accounting match a reference model after any history.

  Model: `Model/Utxo.lean` (unspent/output_set.go), `Model/Fee.lean` (feecalc, satutil), `Prim/F64.lean`
  (exact binary64).  Reference: `Spec/Utxo.lean` (a partial function outpoint → output and the
  declarative meaning of every operation).  The transaction hash is a parameter: the statements hold
  for every `txidOf : Tx → Option Bytes` (`txn.Hash(false)`, `none` = serialisation error); `H` is the
  hash as a total function on the transactions that occur.
-/
import BtcVerif.Props.GuardPins.P_feecalc
import BtcVerif.Props.GuardPins.P_unspent
import BtcVerif.Proofs.Utxo
import BtcVerif.Proofs.Fee
import BtcVerif.Proofs.FeeRange
import BtcVerif.Proofs.F64Sats
import BtcVerif.Proofs.F64Bits

namespace BtcVerif.Props.C15
open BtcVerif BtcVerif.Model BtcVerif.Model.Utxo BtcVerif.Proofs.Utxo

/-- Every operation without nil pointers hands back what the reference says and commutes with the
    abstraction `abs : State → (PrevOut → Option TxOut)`. -/
theorem utxo_refines_spec (txidOf : Tx → Option Bytes) (H : Tx → Bytes) {s : State} {op : Op}
    {sop : Spec.Utxo.Op} (hs : Distinct s) (hm : Matches op sop) (hb : BlockOK txidOf H op) :
    ∃ r, specRes (step txidOf s op).2 = some r ∧
      Spec.Utxo.Step H (abs s) sop (abs (step txidOf s op).1) r :=
  step_refines txidOf H hs hm hb

/-- … and so does every history from the new set (`run_refines`: from every state with distinct keys). -/
theorem utxo_history_refines_spec (txidOf : Tx → Option Bytes) (H : Tx → Bytes) {ops : List Op}
    {sops : List Spec.Utxo.Op} (hm : Forall2 Matches ops sops) (hb : ∀ op ∈ ops, BlockOK txidOf H op) :
    ∃ rs, Forall2 (fun o r => specRes o = some r) (run txidOf none ops).2 rs ∧
      Spec.Utxo.Run H Spec.Utxo.empty sops (abs (run txidOf none ops).1) rs :=
  run_refines txidOf H hm hb distinct_none

/-- The keys of every reachable state are pairwise distinct — whatever the operations (nil
    pointers, failing hashes, malformed txids included). -/
theorem keys_nodup (txidOf : Tx → Option Bytes) (ops : List Op) : Distinct (run txidOf none ops).1 :=
  distinct_run txidOf ops distinct_none

/-- Operations that pass a nil pointer: `AddOutput` of an output without outpoint panics (leaving an
    allocated map with the same contents), `RemoveByOutpoint(nil)` panics exactly when the map is
    allocated, `GetByOutpoint(nil)` is nil; none changes the contents. -/
theorem nil_pointer_ops (txidOf : Tx → Option Bytes) (s : State) (v : TxOut) :
    (step txidOf s (.add none v)).2 = .panic ∧ abs (step txidOf s (.add none v)).1 = abs s ∧
    (step txidOf s (.removeByOutpoint none)).2 = (if s.isNone then .unit else .panic) ∧
    (step txidOf s (.removeByOutpoint none)).1 = s ∧
    step txidOf s (.getByOutpoint none) = (s, .found none) := by
  refine ⟨?_, ?_, ?_, ?_, ?_⟩
  · rw [step, addOutput_none]
  · rw [step, addOutput_none]
    cases s <;> rfl
  · rw [step, removeByOutpoint_none]
  · rw [step, removeByOutpoint_none]
  · rfl

/-- hypotheses are satisfiable: a history with a re-add, a lookup by txid, a size query -/
example : Forall2 Matches
    [.add (some ⟨[1], 0⟩) ⟨5, [0x51]⟩, .add (some ⟨[1], 0⟩) ⟨6, [0x51]⟩, .getByTxid [48, 49] 0, .size]
    [.add ⟨[1], 0⟩ ⟨5, [0x51]⟩, .add ⟨[1], 0⟩ ⟨6, [0x51]⟩, .getByTxid [48, 49] 0, .size] :=
  .cons (.add _ _) (.cons (.add _ _) (.cons (.getByTxid _ _) (.cons .size .nil)))

/-- `UpdateFromBlock` on the model is the reference's block update (transactions in block order,
    spend first, then create), when every transaction hashes and has at most 2^32 outputs. -/
theorem update_block_refines (txidOf : Tx → Option Bytes) (H : Tx → Bytes) (s : State) (b : Block)
    (W : List Bytes) (hb : ∀ t ∈ b.txs, txidOf t = some (H t) ∧ t.outputs.length ≤ 4294967296) :
    (updateFromBlock txidOf s b W).2 = .unit ∧
    abs (updateFromBlock txidOf s b W).1 = Spec.Utxo.applyBlock H W (abs s) b.txs := by
  obtain ⟨s', e, h⟩ := applyTxs_spec txidOf H W b.txs s hb
  rw [updateFromBlock, e]
  exact ⟨rfl, h⟩

/-- After a block, `o` is unspent at outpoint `k` exactly when
    * some transaction of the block created `o` at `k` paying a watched script, and no later
      transaction spent `k` or created something at `k`; or
    * `o` was unspent at `k` before and no transaction of the block spent `k` or created something at `k`. -/
theorem update_block_declarative (H : Tx → Bytes) (W : List Bytes) (txs : List Tx) (σ : Spec.Utxo.USet)
    (k : PrevOut) (o : TxOut) :
    Spec.Utxo.applyBlock H W σ txs k = some o ↔
      (∃ pre t post, txs = pre ++ t :: post ∧ Spec.Utxo.creates H W t k o ∧
        ∀ t' ∈ post, ¬ Spec.Utxo.touches H W t' k) ∨
      (σ k = some o ∧ ∀ t ∈ txs, ¬ Spec.Utxo.touches H W t k) := by
  induction txs generalizing σ with
  | nil => simp [Spec.Utxo.applyBlock]
  | cons t ts ih =>
    rw [applyBlock_cons, ih, applyTx_declarative, List.forall_mem_cons, exists_split_cons
      (fun t post => Spec.Utxo.creates H W t k o ∧ ∀ t' ∈ post, ¬ Spec.Utxo.touches H W t' k)]
    constructor
    · rintro (h | ⟨hc | ⟨hs, ht⟩, hu⟩)
      · exact Or.inl (Or.inr h)
      · exact Or.inl (Or.inl ⟨hc, hu⟩)
      · exact Or.inr ⟨hs, ht, hu⟩
    · rintro ((⟨hc, hu⟩ | h) | ⟨hs, ht, hu⟩)
      · exact Or.inr ⟨Or.inl hc, hu⟩
      · exact Or.inl h
      · exact Or.inr ⟨Or.inr ⟨hs, ht⟩, hu⟩

/-- the same on the model's state, through the refinement -/
theorem update_block_declarative_model (txidOf : Tx → Option Bytes) (H : Tx → Bytes) (s : State) (b : Block)
    (W : List Bytes) (hb : ∀ t ∈ b.txs, txidOf t = some (H t) ∧ t.outputs.length ≤ 4294967296)
    (k : PrevOut) (o : TxOut) :
    lookup k (entries (updateFromBlock txidOf s b W).1) = some o ↔
      (∃ pre t post, b.txs = pre ++ t :: post ∧ Spec.Utxo.creates H W t k o ∧
        ∀ t' ∈ post, ¬ Spec.Utxo.touches H W t' k) ∨
      (lookup k (entries s) = some o ∧ ∀ t ∈ b.txs, ¬ Spec.Utxo.touches H W t k) := by
  have h := (update_block_refines txidOf H s b W hb).2
  have : lookup k (entries (updateFromBlock txidOf s b W).1) = abs (updateFromBlock txidOf s b W).1 k := rfl
  rw [this, h]
  exact update_block_declarative H W b.txs (abs s) k o

/-- An output created by a transaction of the block and spent by a later transaction of the same
    block is not in the set afterwards (unless the spender or a later transaction creates something
    at that outpoint again, which for a real hash function does not happen). -/
theorem create_and_spend_same_block_disappears (H : Tx → Bytes) (W : List Bytes)
    (pre mid post : List Tx) (t1 t2 : Tx) (σ : Spec.Utxo.USet) (k : PrevOut) (o : TxOut)
    (_hcreate : Spec.Utxo.creates H W t1 k o) (hspend : Spec.Utxo.spends t2 k)
    (hno : ∀ t ∈ t2 :: post, ¬ ∃ o', Spec.Utxo.creates H W t k o') :
    Spec.Utxo.applyBlock H W σ (pre ++ t1 :: mid ++ t2 :: post) k = none := by
  have : pre ++ t1 :: mid ++ t2 :: post = (pre ++ t1 :: mid) ++ t2 :: post := by simp
  rw [this]
  exact spent_in_block_disappears H W (pre ++ t1 :: mid) post t2 σ k hspend hno

/-- the same for the model's `UpdateFromBlock` -/
theorem create_and_spend_same_block_disappears_model (txidOf : Tx → Option Bytes) (H : Tx → Bytes)
    (s : State) (b : Block) (W : List Bytes)
    (hb : ∀ t ∈ b.txs, txidOf t = some (H t) ∧ t.outputs.length ≤ 4294967296)
    (pre mid post : List Tx) (t1 t2 : Tx) (k : PrevOut) (o : TxOut)
    (hblock : b.txs = pre ++ t1 :: mid ++ t2 :: post)
    (hcreate : Spec.Utxo.creates H W t1 k o) (hspend : Spec.Utxo.spends t2 k)
    (hno : ∀ t ∈ t2 :: post, ¬ ∃ o', Spec.Utxo.creates H W t k o') :
    getByOutpoint (updateFromBlock txidOf s b W).1 (some k) = .found none := by
  have h := (update_block_refines txidOf H s b W hb).2
  have h2 := create_and_spend_same_block_disappears H W pre mid post t1 t2 (abs s) k o hcreate hspend hno
  rw [← hblock, ← h] at h2
  rw [getByOutpoint_some]
  have : lookup k (entries (updateFromBlock txidOf s b W).1) = none := h2
  rw [this]; rfl

/-- satisfiable: a two-transaction block in which the second spends output 0 of the first -/
example : let H : Tx → Bytes := fun t => [UInt8.ofNat t.locktime]
    let t1 : Tx := ⟨1, [⟨⟨[9], 0⟩, [], 0⟩], [⟨50, [0x51]⟩], none, 7⟩
    let t2 : Tx := ⟨1, [⟨⟨[7], 0⟩, [], 0⟩], [], none, 8⟩
    Spec.Utxo.creates H [[0x51]] t1 ⟨[7], 0⟩ ⟨50, [0x51]⟩ ∧ Spec.Utxo.spends t2 ⟨[7], 0⟩ ∧
    ∀ t ∈ [t2], ¬ ∃ o', Spec.Utxo.creates H [[0x51]] t ⟨[7], 0⟩ o' := by
  refine ⟨by simp [Spec.Utxo.creates], by simp [Spec.Utxo.spends], ?_⟩
  intro t ht
  simp only [List.mem_singleton] at ht
  subst ht
  simp [Spec.Utxo.creates]

/-- `GetByTxid`/`RemoveByTxid` act on the hash the string names: 64 hex digits (either case), read
    in reversed byte order; any other string (wrong length — finding D23 —, odd length, a
    non-hex byte) names nothing: the lookup is nil and the removal changes nothing. -/
theorem txid_lookup_reverses (s : State) (txid : Bytes) (i : Nat) :
    getByTxid s txid i = (match Spec.Utxo.txidHash txid with
      | some h => getByHash s h i
      | none => .found none) ∧
    removeByTxid s txid i = (match Spec.Utxo.txidHash txid with
      | some h => removeByHash s h i
      | none => (s, .unit)) := by
  rw [getByTxid_eq, removeByTxid_eq]
  cases Spec.Utxo.txidHash txid <;> simp [getByHash, getByOutpoint_some, removeByHash_eq]

/-- the txid string of a 32-byte hash — `hex.EncodeToString` of the reversed bytes — names that hash -/
theorem txid_of_hash {h : Bytes} (hl : h.length = 32) :
    Spec.Utxo.txidHash (hexEncode h.reverse) = some h := by
  rw [txidHash_eq, hexEncode_length, List.length_reverse, hl, hexDecode_hexEncode]
  simp [copy32_of_length (b := h.reverse) (by simp [hl])]

/-- finding D23: a txid string whose length is not 64 removes nothing -/
theorem remove_by_malformed_txid (s : State) (txid : Bytes) (i : Nat) (h : txid.length ≠ 64) :
    removeByTxid s txid i = (s, .unit) := by
  rw [removeByTxid_eq, Spec.Utxo.txidHash, if_neg h]

open BtcVerif.Gen.Guards in
/-- the "not found" test of `NewNaivePrevOutValueFunc` is emptiness of the returned string; this
    statement is about the generated guard only: `Model.Fee.naivePrevOutValue` tests `isEmpty` on the bytes of
    that string, and no theorem connects the two -/
theorem naive_prevout_not_found_pinned (txHex : String) :
    feecalc_NewNaivePrevOutValueFunc_lit0_0 (txHex := txHex) = decide (txHex = "") := rfl

open BtcVerif.Model.Fee BtcVerif.Gen.Guards in
/-- `NewNaivePrevOutValueFunc`: for a transaction that decodes, the answer is the value of the output the
outpoint names when the index is in range and an error otherwise — the index test of the source (the
regenerated guard of the function literal) lets no out-of-range index through to the slice access. -/
theorem naive_prevout_value (getTxHex : Bytes → Option Bytes) (p : PrevOut) (hi : p.index < 4294967296)
    (txHex raw rest : Bytes) (t : Tx)
    (h1 : getTxHex (hexEncode p.hash.reverse) = some txHex) (h2 : txHex.isEmpty = false)
    (h3 : Utxo.hexDecode txHex = some raw) (h4 : decTx raw = .ok (t, rest)) :
    naivePrevOutValue getTxHex p =
      match t.outputs[p.index]? with
      | some o => .ok o.value
      | none => .err := by
  have hw := BtcVerif.Gen.wrapS_nat p.index (by omega)
  simp only [naivePrevOutValue, h1, h2, h3, h4, Bool.false_eq_true, if_false,
    feecalc_NewNaivePrevOutValueFunc_lit0_1, hw, ge_iff_le, Int.ofNat_le, decide_eq_true_eq]
  by_cases h : t.outputs.length ≤ p.index
  · simp [h, List.getElem?_eq_none h]
  · have hlt : p.index < t.outputs.length := Nat.lt_of_not_le h
    simp [h, List.getElem?_eq_getElem hlt]

open BtcVerif.Model.Fee BtcVerif.Proofs.Fee in
/-- In the monetary range (both sums below 2^64) the totals are the exact sums and the fee is inputs
    minus outputs, or the error when the outputs exceed the inputs. -/
theorem fee_spec (get : PrevOut → Option Nat) (t : Tx) (vs : List Nat)
    (hvs : inputValues get t.inputs = some vs) (hin : vs.sum < 2 ^ 64) (hout : outputSum t < 2 ^ 64) :
    totalOutputValue t = outputSum t ∧ totalInputValue get t = .ok vs.sum ∧
    ((outputSum t ≤ vs.sum ∧ totalFeeValue get t = .ok (vs.sum - outputSum t)) ∨
     (vs.sum < outputSum t ∧ totalFeeValue get t = .err)) :=
  Proofs.Fee.fee_spec get t vs hvs hin hout

open BtcVerif.Model.Fee BtcVerif.Proofs.Fee in
/-- a previous output the value function does not know makes the fee an error -/
theorem fee_missing_prevout (get : PrevOut → Option Nat) (t : Tx) (hvs : inputValues get t.inputs = none) :
    totalInputValue get t = .err ∧ totalFeeValue get t = .err := by
  have h : totalInputValue get t = .err := by rw [totalInputValue, sumInputs_eq, hvs]
  exact ⟨h, by simp [totalFeeValue, h]⟩

open BtcVerif.Model.Fee BtcVerif.Proofs.Fee in
/-- block total = sum of the fees of the transactions after the coinbase when that sum is below 2^64; the error
    when one of these fees is; a block without transactions makes the Go function panic -/
theorem block_total_spec (get : PrevOut → Option Nat) (b : Block) :
    (b.txs = [] → totalFeesForBlock get b = .panic) ∧
    (∀ cb rest fs, b.txs = cb :: rest → feesOf get rest = some fs → fs.sum < 2 ^ 64 →
      totalFeesForBlock get b = .ok fs.sum) ∧
    (∀ cb rest, b.txs = cb :: rest → feesOf get rest = none → totalFeesForBlock get b = .err) := by
  refine ⟨fun h => by simp [totalFeesForBlock, h], fun cb rest fs hb hfs hlt => ?_, fun cb rest hb hfs => ?_⟩
  · simp only [totalFeesForBlock, hb, sumFees_eq, hfs, foldl_addU64_zero fs hlt]
  · simp only [totalFeesForBlock, hb, sumFees_eq, hfs]

open BtcVerif.Model.Fee BtcVerif.Proofs.Fee in
example : let get : PrevOut → Option Nat := fun _ => some 700
    let t : Tx := ⟨1, [⟨⟨[7], 0⟩, [], 0⟩, ⟨⟨[7], 1⟩, [], 0⟩], [⟨1000, [0x51]⟩], none, 0⟩
    inputValues get t.inputs = some [700, 700] ∧ totalFeeValue get t = .ok 400 := by decide

open BtcVerif.Model.Fee BtcVerif.Proofs.FeeRange BtcVerif.Prim in
/-- `FeeRangeForBlock` skips the coinbase and returns the minimum and maximum of the remaining
    transactions' fee rates (for rates that are `NonNeg`, which `fee_rates_nonneg` shows) — the minimum a member of the list, the maximum a member or the initial `0`,
    bounding every rate in the order of binary64
    values (`F64.key` is the value scaled by 2^1074) —, `(0, 0)` for a block with only a coinbase, the
    error when a rate is undefined; a block without transactions makes the Go function panic. -/
theorem fee_range_spec (get : PrevOut → Option Nat) (b : Block) :
    (b.txs = [] → feeRangeForBlock get b = .panic) ∧
    (∀ cb, b.txs = [cb] → feeRangeForBlock get b = .ok (F64.zero false, F64.zero false)) ∧
    (∀ cb rest, b.txs = cb :: rest → ratesOf get rest = none → feeRangeForBlock get b = .err) ∧
    (∀ cb t rest rs, b.txs = cb :: t :: rest → ratesOf get (t :: rest) = some rs → (∀ r ∈ rs, NonNeg r) →
      ∃ mn mx, feeRangeForBlock get b = .ok (mn, mx) ∧ mn ∈ rs ∧ (mx ∈ rs ∨ mx = F64.zero false) ∧
        ∀ r ∈ rs, F64.key mn ≤ F64.key r ∧ F64.key r ≤ F64.key mx) := by
  refine ⟨fun h => by simp [feeRangeForBlock, h], fun cb h => ?_, fun cb rest h hr => ?_, ?_⟩
  · simp [feeRangeForBlock, h, feeRangeLoop, eq_minusOne_self]
  · simp [feeRangeForBlock, h, feeRangeLoop_eq, hr]
  · intro cb t rest rs h hrs hnn
    cases rs with
    | nil => exact absurd hrs (ratesOf_cons_ne_nil get t rest)
    | cons r0 rs' =>
      obtain ⟨a1, a2⟩ := minLoop_spec rs' r0 hnn
      obtain ⟨b1, b2⟩ := maxLoop_spec (r0 :: rs') (F64.zero false) (List.forall_mem_cons.mpr ⟨trivial, hnn⟩)
      exact ⟨_, _, feeRangeForBlock_of_rates h hrs hnn, a1, (List.mem_cons.mp b1).symm,
        fun r hr => ⟨a2 r hr, b2 r (List.mem_cons_of_mem _ hr)⟩⟩

open BtcVerif.Model.Fee BtcVerif.Proofs.FeeRange BtcVerif.Prim in
/-- the hypothesis of `fee_range_spec` holds for real rates: a fee rate is a non-negative number or
    +∞, never NaN and never the `-1.0` sentinel (virtual sizes below 2^53) -/
theorem fee_rates_nonneg (get : PrevOut → Option Nat) (txs : List Tx) (rs : List F64)
    (hv : ∀ t ∈ txs, vsizeTx t < 2 ^ 53) (h : ratesOf get txs = some rs) : ∀ r ∈ rs, NonNeg r := by
  intro r hr
  obtain ⟨t, ht, hf⟩ := mem_ratesOf h hr
  exact feePerVByte_nonneg get t r (hv t ht) hf

open BtcVerif.Model.Fee in
/-- Lossless conversion: for every amount up to 21·10^14 satoshis, `BitcoinsToSats(SatsToBitcoins(s)) = s`
    over the exact rounding model (64-bit `big.Float` quotient, `Float64()`, binary64 product,
    `math.Round`, conversion to `uint64`). -/
theorem sats_roundtrip (s : Nat) (hs : s ≤ 2100000000000000) :
    bitcoinsToSats (satsToBitcoins s) = some s := Proofs.F64Sats.sats_roundtrip s hs

open BtcVerif.Model.Fee BtcVerif.Prim in
/-- A BTC amount with up to 8 decimals (`k / 10^8`), held as the nearest double, is exactly `k` satoshis. -/
theorem decimal_to_sats (k : Nat) (hk : k ≤ 2100000000000000) :
    bitcoinsToSats (F64.ofRat false k 100000000) = some k := by
  rcases Nat.eq_zero_or_pos k with rfl | hk0
  · exact Proofs.F64Sats.sats_roundtrip_zero
  · obtain ⟨m, e, hfin, hm, he, hx⟩ := Proofs.F64Sats.decimal_form k hk0 hk
    rw [hfin]
    exact Proofs.F64Sats.bitcoinsToSats_of_near m e k hk0 hk hm (by omega) hx

open BtcVerif.Model.Fee in
/-- `RoundBitcoins` leaves every value produced by `SatsToBitcoins` unchanged. -/
theorem round_bitcoins_fixed (s : Nat) (hs : s ≤ 2100000000000000) :
    roundBitcoins (satsToBitcoins s) = some (satsToBitcoins s) := by
  rw [roundBitcoins, sats_roundtrip s hs]
  rfl

open BtcVerif.Prim BtcVerif.Proofs.F64 in
/-- The rounding primitive: `roundPos p n d` has a `p`-bit mantissa and is within the relative error
    `2^-p` of `n/d` (over ℚ). -/
theorem round_to_nearest_spec (p n d : Nat) (hp : 1 ≤ p) (hn : 0 < n) (hd : 0 < d) :
    2 ^ (p - 1) ≤ (roundPos p n d).1 ∧ (roundPos p n d).1 < 2 ^ p ∧
    |val (roundPos p n d) - (n : ℚ) / d| ≤ (n : ℚ) / d / 2 ^ p := roundPos_spec p n d hp hn hd

open BtcVerif.Prim BtcVerif.Proofs.F64Bits in
/-- Decoding the 64-bit pattern inverts encoding on canonical values: equal patterns, equal values. -/
theorem f64_bits_roundtrip (x : F64) (h : Canon x) : F64.ofBits (F64.toBits x) = x := by
  cases x with
  | nan => decide
  | inf neg => cases neg <;> decide
  | fin neg m e =>
    simp only [Canon] at h
    simp only [F64.toBits]
    rcases h with ⟨h1, rfl⟩ | ⟨h1, h2, h3, h4⟩
    · have hf := ofBits_fields neg 0 m (by omega) h1
      rw [Nat.zero_mul, Nat.zero_add, if_pos rfl] at hf
      rw [if_pos h1, hf]
    · obtain ⟨E, hE⟩ : ∃ E : Nat, e + 1075 = E := ⟨(e + 1075).toNat, (Int.toNat_of_nonneg (by omega)).symm⟩
      rw [if_neg (Nat.not_lt.mpr h1), hE, Int.toNat_natCast,
        ofBits_fields neg E (m - 2 ^ 52) (by omega) (by omega),
        if_neg (by omega : ¬ E = 0), if_neg (by omega : ¬ E = 2047)]
      rw [show 2 ^ 52 + (m - 2 ^ 52) = m by omega, show (E : Int) - 1075 = e by omega]

open BtcVerif.Prim BtcVerif.Proofs.F64Bits in
example : Canon (F64.ofNat 100000000) ∧ F64.toBits (F64.ofNat 100000000) = 0x4197d78400000000 := by decide

end BtcVerif.Props.C15
