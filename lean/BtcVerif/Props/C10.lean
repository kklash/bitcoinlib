/-
  C10 — key export formats round-trip and reject damage: WIF strings, BIP32 extended-key strings and
  BIP38 encrypted keys. The payload parsers and their lemmas are in `Proofs/Wif.lean`, `Proofs/XKey.lean`
  and `Proofs/Bip38.lean`. The Base58Check checksum function `ck` is arbitrary with four-byte values;
  the public-key check of extended public keys is an arbitrary predicate `pubOk` (C06 owns it).
-/
import BtcVerif.Props.GuardPins.P_bip38
import BtcVerif.Props.GuardPins.P_bip32
import BtcVerif.Props.GuardPins.P_wif
import BtcVerif.Proofs.Wif
import BtcVerif.Proofs.XKey
import BtcVerif.Proofs.AddressRef
import BtcVerif.Proofs.Bip38

namespace BtcVerif.Props.C10
open BtcVerif BtcVerif.Model

/-- encoding a 32-byte key with any version byte and flag succeeds, and decoding the string
    returns the identical key, version and flag -/
theorem wif_dec_enc (ck : Bytes → Bytes) (hck : ∀ x, (ck x).length = 4) (k : Bytes)
    (hk : k.length = 32) (v : Nat) (hv : v < 256) (c : Bool) :
    ∃ s, Wif.encode ck k v c = .ok s ∧ Wif.decode ck s = .ok (k, v, c) := by
  refine ⟨_, by rw [Proofs.Wif.encode_eq, if_pos hk], ?_⟩
  rw [Proofs.Wif.decode_eq, Base58Check.encodeVersion, Proofs.CheckPayload.decode_encode_bind ck hck,
    Proofs.CheckPayload.versionBytes_small (by omega)]
  exact (Proofs.Wif.splitWif_payload k hk _ c).trans (by rw [UInt8.toNat_ofNat_of_lt' hv])

/-- every accepted WIF string re-encodes to itself -/
theorem wif_enc_dec_canonical (ck : Bytes → Bytes) (s k : Bytes) (v : Nat) (c : Bool)
    (hd : Wif.decode ck s = .ok (k, v, c)) : k.length = 32 ∧ v < 256 ∧ Wif.encode ck k v c = .ok s := by
  rw [Proofs.Wif.decode_eq] at hd
  obtain ⟨d, _, henc, hd⟩ := Proofs.CheckPayload.decode_bind_eq_ok hd
  obtain ⟨hk, hv, rfl⟩ := Proofs.Wif.splitWif_ok hd
  refine ⟨hk, hv, ?_⟩
  rw [Proofs.Wif.encode_eq, if_pos hk, Base58Check.encodeVersion,
    Proofs.CheckPayload.versionBytes_small (by omega)]
  exact congrArg Outcome.ok henc

/-- accepted exactly: a valid Base58Check string whose payload has 33 bytes, or 34 bytes with the
    last one equal to 01 -/
theorem wif_accepts_iff (ck : Bytes → Bytes) (s : Bytes) :
    (∃ r, Wif.decode ck s = .ok r) ↔
      ∃ d, Base58Check.decode ck s = .ok d ∧ (d.length = 33 ∨ (d.length = 34 ∧ d[33]? = some 1)) := by
  simp only [Proofs.Wif.decode_eq, Outcome.bind_accepts, Proofs.Wif.splitWif_accepts_iff]

/-- keys of any other length are refused -/
theorem wif_wrong_length_refused (ck : Bytes → Bytes) (k : Bytes) (hk : k.length ≠ 32) (v : Nat) (c : Bool) :
    Wif.encode ck k v c = .err := by
  rw [Proofs.Wif.encode_eq, if_neg hk]

theorem wif_no_panic (ck : Bytes → Bytes) (s : Bytes) : Wif.decode ck s ≠ .panic := by
  rw [Proofs.Wif.decode_eq]
  exact Proofs.CheckPayload.decode_bind_ne_panic ck s Proofs.Wif.splitWif_ne_panic

example : ∃ s, Wif.encode (fun _ => [9, 9, 9, 9]) (List.replicate 32 7) 128 true = .ok s ∧
    Wif.decode (fun _ => [9, 9, 9, 9]) s = .ok (List.replicate 32 7, 128, true) :=
  wif_dec_enc _ (fun _ => rfl) _ (by decide) 128 (by decide) true

/-- deserializing what was serialized returns the same key, chain code, depth and version, and
    the fingerprint and index with the format's depth-0 normalisation (both zero at depth 0) -/
theorem xkey_dec_enc (ck : Bytes → Bytes) (hck : ∀ x, (ck x).length = 4) (pubOk : Bytes → Bool)
    (key chainCode fp : Bytes) (depth index version : Nat) (isPrivate : Bool)
    (wf : Proofs.XKey.WF pubOk key chainCode fp depth index version isPrivate) :
    XKey.deserialize ck pubOk (XKey.serialize ck key chainCode fp depth index version isPrivate) =
      .ok ⟨key, chainCode, if depth = 0 then XKey.ser32 0 else fp, depth,
        if depth = 0 then 0 else index, version⟩ := by
  rw [Proofs.XKey.serialize_eq, Proofs.XKey.deserialize_eq, Proofs.CheckPayload.decode_encode_bind ck hck]
  have hfpl : (if depth = 0 then XKey.ser32 0 else fp).length = 4 := by
    split
    · exact Proofs.XKey.ser32_length 0
    · exact wf.fp
  have hidx : (if depth = 0 then 0 else index) < 256 ^ 4 := by
    split
    · decide
    · exact wf.index
  exact Proofs.XKey.parse_serialized wf hfpl hidx

/-- accepted exactly: a valid Base58Check string of a 78-byte payload whose key field starts with
    00 (private key) or passes the public-key check -/
theorem xkey_accepts_iff (ck : Bytes → Bytes) (pubOk : Bytes → Bool) (s : Bytes) :
    (∃ r, XKey.deserialize ck pubOk s = .ok r) ↔
      ∃ P, Base58Check.decode ck s = .ok P ∧ P.length = 78 ∧
        (P[45]? = some 0 ∨ pubOk (P.drop 45) = true) := by
  simp only [Proofs.XKey.deserialize_eq, Outcome.bind_accepts, Proofs.XKey.parse_accepts_iff]

/-- an accepted string is the serialization of the fields it yields, under `hnorm`: depth 0 with a
    non-zero fingerprint or index is left out, because `serialize` writes zeros for both at depth 0 -/
theorem xkey_enc_dec_canonical (ck : Bytes → Bytes) (pubOk : Bytes → Bool) (s : Bytes) (r : XKey.Fields)
    (hd : XKey.deserialize ck pubOk s = .ok r)
    (hnorm : r.depth ≠ 0 ∨ (r.parentFingerprint = XKey.ser32 0 ∧ r.index = 0)) :
    XKey.serialize ck r.key r.chainCode r.parentFingerprint r.depth r.index r.version
      (decide (r.key.length = 32)) = s :=
  Proofs.XKey.serialize_deserialize ck pubOk s r hd hnorm

theorem xkey_no_panic (ck : Bytes → Bytes) (pubOk : Bytes → Bool) (s : Bytes) :
    XKey.deserialize ck pubOk s ≠ .panic := by
  rw [Proofs.XKey.deserialize_eq]
  exact Proofs.CheckPayload.decode_bind_ne_panic ck s (Proofs.XKey.parse_ne_panic pubOk)

theorem be_eq_beBytes : ∀ k n, Spec.Address.be k n = beBytes k n := by
  intro k
  induction k with
  | zero => intro n; rfl
  | succ k ih =>
    intro n
    simp only [Spec.Address.be, ih, beBytes, leBytes, List.reverse_cons]

/-- WIF strings equal the reference encoding `Base58Check(version ‖ key)`, with `01` appended to the
    key for a compressed one -/
theorem wif_eq_reference (ck : Bytes → Bytes) (k : Bytes) (hk : k.length = 32) (v : Nat) (hv : v < 256)
    (c : Bool) : Wif.encode ck k v c = .ok (Spec.Address.wif ck v k c) := by
  rw [Proofs.Wif.encode_eq, if_pos hk, Spec.Address.wif, Base58Check.encodeVersion,
    Proofs.CheckPayload.versionBytes_small (show v ≤ 255 by omega), Proofs.Address.base58check_eq_spec]
  cases c <;> rfl

/-- extended-key strings equal the BIP32 reference serialization (with the depth-0 normalisation
    of the library made explicit) -/
theorem xkey_eq_reference (ck : Bytes → Bytes) (key chainCode fp : Bytes) (depth index version : Nat)
    (isPrivate : Bool) :
    XKey.serialize ck key chainCode fp depth index version isPrivate =
      Spec.Address.xkey ck version depth (if depth = 0 then [0, 0, 0, 0] else fp)
        (if depth = 0 then 0 else index) chainCode ((if isPrivate then [0] else []) ++ key) := by
  rw [Proofs.XKey.serialize_eq]
  unfold Spec.Address.xkey
  rw [Proofs.Address.base58check_eq_spec, be_eq_beBytes, be_eq_beBytes]
  simp only [XKey.ser32]
  by_cases hd : depth = 0 <;> simp [hd] <;> rfl

/-- the well-formedness hypothesis is satisfiable (a private and a public key) -/
example : Proofs.XKey.WF (fun _ => true) (List.replicate 32 1) (List.replicate 32 2) [1, 2, 3, 4] 3 7
    76066276 true := ⟨by decide, by decide, by decide, by decide, by decide, by decide⟩
example : Proofs.XKey.WF (fun k => k.length == 33) (2 :: List.replicate 32 1) (List.replicate 32 2)
    [0, 0, 0, 0] 0 0 76067358 false := ⟨by decide, by decide, by decide, by decide, by decide, by decide⟩

/-! ### BIP38 — parametric in the block cipher, the key-derivation and hash functions -/

/-- decrypting with the same passphrase what `Encrypt` produced returns the identical key and
    compression flag: for every 32-byte key that has an address, every passphrase and flag, whenever
    the primitives satisfy `Good` (AES decryption inverts encryption; block, key-derivation, hash and
    checksum outputs have their lengths) -/
theorem bip38_roundtrip (P : Bip38.Prims) (g : Proofs.Bip38.Good P) (key pw : Bytes) (c : Bool)
    (hk : key.length = 32) (addr : Bytes) (hda : Bip38.deriveAddress P key c = .ok addr) :
    ∃ s, Bip38.encrypt P key pw c = .ok s ∧ Bip38.decrypt P s pw = .ok (key, c) :=
  Proofs.Bip38.decrypt_encrypt P g key pw c hk addr hda

/-- EC-multiply: a key encrypted with an intermediate code decrypts, with the passphrase the code
    was derived from, to `factorb · passfactor mod N` (both with and without lot/sequence);
    `hcomm` is the group law `(fb·pf)·G = fb·(pf·G)`, a hypothesis here (C06 owns the curve) -/
theorem bip38_ec_roundtrip (P : Bip38.Prims) (g : Proofs.Bip38.Good P) (useLot : Bool)
    (oe pw pf pp seedb : Bytes) (c : Bool) (hoe : oe.length = 8)
    (hpf : Bip38.passFactorOf P useLot pw oe = .ok pf) (hpp : P.baseMul pf = .ok pp) (hppl : pp.length = 33)
    (hsl : seedb.length = 24) (pub addr : Bytes)
    (hpub : P.pointMul pp (P.dsha256 seedb) c = .ok pub) (haddr : P.p2pkh pub = .ok addr)
    (hcomm : P.pubKey (P.mulModN (P.dsha256 seedb) pf) c = .ok pub) :
    ∃ s, Bip38.encryptIntermediateCode P seedb
        (Base58Check.encode P.cksum ((if useLot then Bip38.magicLot else Bip38.magicPlain) ++ oe ++ pp)) c = .ok s ∧
      Bip38.decrypt P s pw = .ok (P.mulModN (P.dsha256 seedb) pf, c) :=
  Proofs.Bip38.ec_roundtrip P g useLot oe pw pf pp seedb c hoe hpf hpp hppl hsl pub addr hpub haddr hcomm

/-- the intermediate codes `GenerateIntermediateCode*` return have exactly the shape
    `bip38_ec_roundtrip` consumes -/
theorem bip38_intermediate_code (P : Bip38.Prims) (oe pw pp : Bytes) (hoe : oe.length = 8)
    (hpp : P.baseMul (P.scrypt pw oe 16384 8 8 32) = .ok pp) :
    Bip38.intermediateCode P oe pw = .ok (Base58Check.encode P.cksum (Bip38.magicPlain ++ oe ++ pp)) ∧
    Bip38.passFactorOf P false pw oe = .ok (P.scrypt pw oe 16384 8 8 32) :=
  Proofs.Bip38.intermediateCode_eq P oe pw pp hoe hpp

theorem bip38_intermediate_code_lot (P : Bip38.Prims) (salt pw pp : Bytes) (lot sequence : Nat)
    (hs : salt.length = 4) (hlot : lot ≤ 0xfffff) (hseq : sequence ≤ 0xfff)
    (hpp : P.baseMul (P.dsha256 (P.scrypt pw salt 16384 8 8 32 ++
      (salt ++ beBytes 4 ((lot <<< 12 + sequence) % 4294967296)))) = .ok pp) :
    let oe := salt ++ beBytes 4 ((lot <<< 12 + sequence) % 4294967296)
    Bip38.intermediateCodeLot P salt pw lot sequence =
      .ok (Base58Check.encode P.cksum (Bip38.magicLot ++ oe ++ pp)) ∧
    oe.length = 8 ∧
    Bip38.passFactorOf P true pw oe = .ok (P.dsha256 (P.scrypt pw salt 16384 8 8 32 ++ oe)) :=
  Proofs.Bip38.intermediateCodeLot_eq P salt pw pp lot sequence hs hlot hseq hpp

/-- decryption reports success only when the address hash of the recovered key equals the four
    bytes embedded in the ciphertext: a wrong passphrase or an altered ciphertext does not succeed
    unless those 32 bits collide -/
theorem bip38_success_implies_hash_match (P : Bip38.Prims) (s pw k : Bytes) (c : Bool)
    (h : Bip38.decrypt P s pw = .ok (k, c)) :
    ∃ d addr, Base58Check.decode P.cksum s = .ok d ∧ Bip38.deriveAddress P k c = .ok addr ∧
      Bip38.slice (P.dsha256 addr) 0 4 = Bip38.slice d 3 7 := by
  obtain ⟨d, _, hd, _, _, _, _, _, addr, hda, hs⟩ := Proofs.Bip38.decrypt_ok P s pw k c h
  exact ⟨d, addr, hd, hda, hs⟩

/-- the flag byte is validated strictly (D22): success implies a 39-byte payload `01 42 f …` with
    `f ∈ {c0, e0}` or `01 43 f …` with only the bits 20 and 04 possibly set, and the returned
    compression flag is bit 20 of `f` -/
theorem bip38_flag_strict (P : Bip38.Prims) (s pw k : Bytes) (c : Bool)
    (h : Bip38.decrypt P s pw = .ok (k, c)) :
    ∃ d flag, Base58Check.decode P.cksum s = .ok d ∧ d.length = 39 ∧ d[0]? = some 1 ∧ d[2]? = some flag ∧
      ((d[1]? = some 0x42 ∧ (flag = 0xc0 ∨ flag = 0xe0)) ∨
       (d[1]? = some 0x43 ∧ flag.toNat &&& 219 = 0)) ∧
      c = decide (flag.toNat &&& 32 ≠ 0) := by
  obtain ⟨d, flag, hd, hl, h0, h2, hcase, hc, _⟩ := Proofs.Bip38.decrypt_ok P s pw k c h
  exact ⟨d, flag, hd, hl, h0, h2, hcase, hc⟩

/-- the hypotheses on the primitives are satisfiable (identity cipher, constant hashes) -/
example : Proofs.Bip38.Good
    { scrypt := fun _ _ _ _ _ n => List.replicate n 0, aesEnc := fun _ x => x, aesDec := fun _ x => x,
      dsha256 := fun _ => List.replicate 32 0, cksum := fun _ => [0, 0, 0, 0],
      pubKey := fun _ _ => .ok [2], p2pkh := fun _ => .ok [0x31], baseMul := fun _ => .ok [2],
      pointMul := fun _ _ _ => .ok [2], mulModN := fun a _ => a } :=
  ⟨fun _ _ => rfl, fun _ _ h => h, fun _ _ _ _ _ n => by simp, fun _ => by simp, fun _ => rfl⟩

end BtcVerif.Props.C10
