/-
  C09 — addresses round-trip on every network and only canonical addresses decode. The equations of
  `Decode` and `DecodeBase58Address` are in `Proofs/Address.lean`, the segwit round trip (resting on
  the Bech32 theorems of C08) in `Proofs/AddressSegwit.lean`. The hash functions are arbitrary
  (`hs : Hashes`); the selected network is the argument `net`. Strings are byte strings.
-/
import BtcVerif.Props.GuardPins.P_address
import BtcVerif.Proofs.Address
import BtcVerif.Proofs.AddressSegwit
import BtcVerif.Proofs.AddressRef
import BtcVerif.Proofs.Bech32EncRef

namespace BtcVerif.Props.C09
open BtcVerif BtcVerif.Model BtcVerif.Model.Address

/-! ### the network table (T1): the regenerated constants are the published parameters -/

/-- the model-side reading of a reference network -/
def ofSpec (n : Spec.Address.Net) : Network :=
  { bech32 := match n.hrp with | some h => h | none => []
    scriptHash := beNat n.p2shVersion
    pubkeyHash := beNat n.p2pkhVersion
    wif := n.wifVersion
    extPub := n.xpub
    extPriv := n.xprv }

theorem networks_eq_spec :
    bitcoin = ofSpec Spec.Address.bitcoin ∧ testnet = ofSpec Spec.Address.testnet ∧
    litecoin = ofSpec Spec.Address.litecoin ∧ zcash = ofSpec Spec.Address.zcash := by decide +kernel

def supported : List Network := [bitcoin, testnet, litecoin, zcash]

theorem supported_wf : ∀ net ∈ supported, Proofs.Address.WFNet net := by decide +kernel

theorem addr_roundtrip_p2pkh (hs : Hashes) (hck : ∀ x, (hs.cksum x).length = 4) (net : Network)
    (hnet : net ∈ supported) (h : Bytes) (hl : h.length = 20) :
    decode hs net (makeP2PKHFromHash hs net h) = .ok (.p2pkh, Spec.Address.scriptPubKey .p2pkh h) :=
  Proofs.Address.decode_p2pkh hs hck net (supported_wf net hnet) h hl

theorem addr_roundtrip_p2sh (hs : Hashes) (hck : ∀ x, (hs.cksum x).length = 4) (net : Network)
    (hnet : net ∈ supported) (h : Bytes) (hl : h.length = 20) :
    decode hs net (makeP2SHFromHash hs net h) = .ok (.p2sh, Spec.Address.scriptPubKey .p2sh h) :=
  Proofs.Address.decode_p2sh hs hck net (supported_wf net hnet) h hl

/-! ### networks without segwit refuse the segwit formats -/

theorem nosegwit_refuses (hs : Hashes) (net : Network) (hn : net.bech32 = []) (data : Bytes) :
    make hs net .p2wpkh data = .err ∧ make hs net .p2wsh data = .err ∧
    makeFromHash hs net .p2wpkh data = .err ∧ makeFromHash hs net .p2wsh data = .err := by
  have hnil := fun h => Proofs.Address.makeP2WPKHFromHash_nil net h hn
  refine ⟨?_, hnil _, ?_, ?_⟩
  · rw [Proofs.Address.make_p2wpkh, hnil, ite_self]
  · rw [Proofs.Address.makeFromHash_segwit hs net data (Or.inl rfl), hnil, ite_self]
  · rw [Proofs.Address.makeFromHash_segwit hs net data (Or.inr rfl), hnil, ite_self]

theorem zcash_has_no_segwit : zcash.bech32 = [] := by decide

/-- every string accepted as P2PKH / P2SH is exactly the address `MakeFromHash` produces for the
    hash in the returned (standard) script: no second string decodes to the same script -/
theorem decode_canonical_base58 (hs : Hashes) (net : Network) (s : Bytes) (fmt : Format) (spk : Bytes)
    (hd : decode hs net s = .ok (fmt, spk)) (hf : fmt = .p2pkh ∨ fmt = .p2sh) :
    ∃ h, h.length = 20 ∧
      ((fmt = .p2pkh ∧ spk = Spec.Address.scriptPubKey .p2pkh h ∧ makeP2PKHFromHash hs net h = s) ∨
       (fmt = .p2sh ∧ spk = Spec.Address.scriptPubKey .p2sh h ∧ makeP2SHFromHash hs net h = s)) := by
  rcases Proofs.Address.decode_ok hd with hb | ⟨_, _, hc⟩
  · exact hb
  · rcases hc with ⟨rfl, _⟩ | ⟨rfl, _⟩ <;> rcases hf with hf | hf <;> cases hf

/-- a segwit result comes from a Bech32 string with the network's HRP, witness version 0 and a
    program of 20 (P2WPKH) or 32 (P2WSH) bytes: with any other HRP, a non-zero witness version or
    another program length `Decode` gives no segwit result -/
theorem nonzero_witness_version_rejected (hs : Hashes) (net : Network) (s : Bytes) (fmt : Format)
    (spk : Bytes) (hd : decode hs net s = .ok (fmt, spk)) (hf : fmt = .p2wpkh ∨ fmt = .p2wsh) :
    ∃ prog, Bech32.decode s = .ok (net.bech32, 0, prog) ∧
      ((fmt = .p2wpkh ∧ prog.length = 20 ∧ spk = Spec.Address.scriptPubKey .p2wpkh prog) ∨
       (fmt = .p2wsh ∧ prog.length = 32 ∧ spk = Spec.Address.scriptPubKey .p2wsh prog)) := by
  rcases Proofs.Address.decode_ok hd with ⟨_, _, hc⟩ | hw
  · rcases hc with ⟨rfl, _⟩ | ⟨rfl, _⟩ <;> rcases hf with hf | hf <;> cases hf
  · exact hw

theorem decode_format_standard (hs : Hashes) (net : Network) (s : Bytes) (fmt : Format) (spk : Bytes)
    (hd : decode hs net s = .ok (fmt, spk)) : fmt ≠ .other := by
  rcases Proofs.Address.decode_ok hd with ⟨_, _, ⟨rfl, _⟩ | ⟨rfl, _⟩⟩ | ⟨_, _, ⟨rfl, _⟩ | ⟨rfl, _⟩⟩ <;>
    exact nofun

/-- the Base58 versions of the four networks are eight different numbers -/
theorem versions_distinct :
    (supported.flatMap (fun n => [n.scriptHash, n.pubkeyHash])).Nodup := by decide +kernel

theorem versions_cross : ∀ a ∈ supported, ∀ b ∈ supported, a ≠ b →
    a.pubkeyHash < 65536 ∧ a.scriptHash < 65536 ∧ a.pubkeyHash ≠ b.scriptHash ∧
      a.pubkeyHash ≠ b.pubkeyHash ∧ a.scriptHash ≠ b.scriptHash ∧ a.scriptHash ≠ b.pubkeyHash := by
  decide +kernel

/-- a P2PKH or P2SH address made for one supported network is rejected under every other one -/
theorem cross_network_rejected_base58 (hs : Hashes) (hck : ∀ x, (hs.cksum x).length = 4)
    (a b : Network) (ha : a ∈ supported) (hb : b ∈ supported) (hab : a ≠ b) (h : Bytes)
    (hl : h.length = 20) :
    decode hs b (makeP2PKHFromHash hs a h) = .err ∧ decode hs b (makeP2SHFromHash hs a h) = .err := by
  have key := versions_cross a ha b hb hab
  exact ⟨Proofs.Address.decode_foreign_version hs hck b h hl _ key.1 key.2.2.1 key.2.2.2.1,
    Proofs.Address.decode_foreign_version hs hck b h hl _ key.2.1 key.2.2.2.2.1 key.2.2.2.2.2⟩

theorem wrong_length_rejected (hs : Hashes) (net : Network) (fmt : Format) (h : Bytes)
    (hl : h.length ≠ (if fmt = .p2wsh then 32 else 20)) : makeFromHash hs net fmt h = .err := by
  rw [Proofs.Address.makeFromHash_nat, if_pos hl]

theorem wrong_key_length_rejected (hs : Hashes) (net : Network) (pk : Bytes) :
    (pk.length ≠ 33 → pk.length ≠ 65 → make hs net .p2pkh pk = .err) ∧
    (pk.length ≠ 33 → make hs net .p2wpkh pk = .err) := by
  constructor
  · intro h1 h2
    rw [Proofs.Address.make_p2pkh, if_neg (fun h => h.elim h1 h2)]
  · intro h1
    rw [Proofs.Address.make_p2wpkh, if_neg h1]

/-- a Base58Check payload that is not 21 or 22 bytes long is not an address -/
theorem wrong_payload_length_rejected (hs : Hashes) (s payload : Bytes)
    (hp : Base58Check.decode hs.cksum s = .ok payload) (h21 : payload.length ≠ 21)
    (h22 : payload.length ≠ 22) : decodeBase58Address hs s = .err := by
  rw [Proofs.Address.decodeBase58_eq, hp]
  exact Proofs.Address.splitPayload_err h21 h22

def segwitNets : List Network := [bitcoin, testnet, litecoin]

theorem segwit_nets_ok : ∀ net ∈ segwitNets, Proofs.Address.SegwitNet net := by
  intro net h
  simp only [segwitNets, List.mem_cons, List.mem_nil_iff, or_false] at h
  rcases h with h | h | h <;> subst h <;>
    exact ⟨⟨by decide, by decide, by decide⟩, by decide⟩

/-- P2WPKH / P2WSH round trip: the address made for a 20- or 32-byte program decodes (on the same
    network, for any hash functions) to the format and to the standard witness script -/
theorem addr_roundtrip_segwit (hs : Hashes) (net : Network) (hnet : net ∈ segwitNets) (h : Bytes)
    (hl : h.length = 20 ∨ h.length = 32) :
    ∃ s, makeFromHash hs net (if h.length = 20 then .p2wpkh else .p2wsh) h = .ok s ∧
      decode hs net s = .ok (if h.length = 20 then Format.p2wpkh else Format.p2wsh,
        Spec.Address.scriptPubKey (if h.length = 20 then .p2wpkh else .p2wsh) h) := by
  obtain ⟨s, hmk, h41, hdec⟩ := Proofs.Address.makeWitness_ok net (segwit_nets_ok net hnet) h hl
  refine ⟨s, ?_, by rw [Proofs.Address.decode_of_bech32 hs hdec h41]; rcases hl with hl | hl <;> simp [hl]⟩
  rcases hl with hl | hl
  · rw [if_pos hl, Proofs.Address.makeFromHash_of_length hs net .p2wpkh h hl]
    exact hmk
  · rw [if_neg (by omega), Proofs.Address.makeFromHash_of_length hs net .p2wsh h hl]
    exact hmk

/-- every string accepted as P2WPKH / P2WSH is, up to case, exactly the address `MakeFromHash`
    produces for the program in the returned (standard) script -/
theorem decode_canonical_segwit (hs : Hashes) (net : Network) (s : Bytes) (fmt : Format) (spk : Bytes)
    (hd : decode hs net s = .ok (fmt, spk)) (hf : fmt = .p2wpkh ∨ fmt = .p2wsh) :
    ∃ prog, prog.length = (if fmt = .p2wsh then 32 else 20) ∧
      spk = Spec.Address.scriptPubKey (if fmt = .p2wsh then .p2wsh else .p2wpkh) prog ∧
      makeFromHash hs net fmt prog = .ok (Bech32.lower s) := by
  obtain ⟨prog, hsrc, hcases⟩ := nonzero_witness_version_rejected hs net s fmt spk hd hf
  have hmk : makeP2WPKHFromHash net prog = .ok (Bech32.lower s) := by
    rw [Proofs.Address.makeP2WPKHFromHash_eq net prog (Proofs.Address.bech32_decode_hrp_ne s _ 0 prog hsrc)]
    exact Proofs.Bech32.encode_decode s net.bech32 0 prog hsrc
  refine ⟨prog, ?_⟩
  rcases hcases with ⟨rfl, hpl, hspk⟩ | ⟨rfl, hpl, hspk⟩
  · exact ⟨hpl, hspk, by rw [Proofs.Address.makeFromHash_of_length hs net .p2wpkh prog hpl]; exact hmk⟩
  · exact ⟨hpl, hspk, by rw [Proofs.Address.makeFromHash_of_length hs net .p2wsh prog hpl]; exact hmk⟩

/-- `decode_canonical` for all four formats: an accepted string is (lower-cased for the Bech32 forms)
    an address `MakeFromHash` produces for the returned format. That the hash is the one in the
    returned script is said by `decode_canonical_base58` and `decode_canonical_segwit`. -/
theorem decode_canonical (hs : Hashes) (net : Network) (s : Bytes) (fmt : Format) (spk : Bytes)
    (hd : decode hs net s = .ok (fmt, spk)) :
    ∃ h, makeFromHash hs net fmt h =
      .ok (if fmt = .p2wpkh ∨ fmt = .p2wsh then Bech32.lower s else s) := by
  rcases Proofs.Address.decode_ok hd with ⟨h, hl, ⟨rfl, _, hm⟩ | ⟨rfl, _, hm⟩⟩ | ⟨_, _, ⟨rfl, _⟩ | ⟨rfl, _⟩⟩
  · exact ⟨h, by rw [Proofs.Address.makeFromHash_of_length hs net .p2pkh h hl, ← hm]; rfl⟩
  · exact ⟨h, by rw [Proofs.Address.makeFromHash_of_length hs net .p2sh h hl, ← hm]; rfl⟩
  · obtain ⟨prog, _, _, hm⟩ := decode_canonical_segwit hs net s _ spk hd (Or.inl rfl)
    exact ⟨prog, hm⟩
  · obtain ⟨prog, _, _, hm⟩ := decode_canonical_segwit hs net s _ spk hd (Or.inr rfl)
    exact ⟨prog, hm⟩

/-- the HRPs of the three segwit networks differ from each other and from Zcash's (none) -/
theorem hrps_cross : ∀ a ∈ segwitNets, ∀ b ∈ supported, a ≠ b → a.bech32 ≠ b.bech32 := by decide +kernel

/-- a segwit address made for one supported network is rejected under every other one -/
theorem cross_network_rejected_segwit (hs : Hashes) (a b : Network) (ha : a ∈ segwitNets)
    (hb : b ∈ supported) (hab : a ≠ b) (h : Bytes) (hl : h.length = 20 ∨ h.length = 32) :
    ∃ s, makeP2WPKHFromHash a h = .ok s ∧ decode hs b s = .err :=
  Proofs.Address.decode_foreign_hrp hs a b (segwit_nets_ok a ha) (hrps_cross a ha b hb hab) h hl

/-- hash functions with the output lengths of HASH160, SHA-256 and the 4-byte checksum -/
structure HashLengths (hs : Hashes) : Prop where
  h160 : ∀ x, (hs.hash160 x).length = 20
  s256 : ∀ x, (hs.sha256 x).length = 32
  ck : ∀ x, (hs.cksum x).length = 4

/-- `Make` followed by `Decode`, for the Base58 formats: a 33- or 65-byte public key gives a P2PKH
    address, any script a P2SH address, and each decodes to the standard script committing to
    HASH160 of the data -/
theorem addr_roundtrip_make_base58 (hs : Hashes) (hl : HashLengths hs) (net : Network)
    (hnet : net ∈ supported) (data : Bytes) :
    (data.length = 33 ∨ data.length = 65 →
      ∃ s, make hs net .p2pkh data = .ok s ∧
        decode hs net s = .ok (.p2pkh, Spec.Address.scriptPubKey .p2pkh (hs.hash160 data))) ∧
    (∃ s, make hs net .p2sh data = .ok s ∧
        decode hs net s = .ok (.p2sh, Spec.Address.scriptPubKey .p2sh (hs.hash160 data))) := by
  constructor
  · intro hlen
    exact ⟨_, by rw [Proofs.Address.make_p2pkh, if_pos hlen],
      addr_roundtrip_p2pkh hs hl.ck net hnet _ (hl.h160 data)⟩
  · exact ⟨_, rfl, addr_roundtrip_p2sh hs hl.ck net hnet _ (hl.h160 data)⟩

/-- `Make` followed by `Decode`, for the segwit formats: a 33-byte public key gives a P2WPKH
    address committing to HASH160 of the key, any script a P2WSH address committing to its SHA-256 -/
theorem addr_roundtrip_make_segwit (hs : Hashes) (hl : HashLengths hs) (net : Network)
    (hnet : net ∈ segwitNets) (data : Bytes) :
    (data.length = 33 →
      ∃ s, make hs net .p2wpkh data = .ok s ∧
        decode hs net s = .ok (.p2wpkh, Spec.Address.scriptPubKey .p2wpkh (hs.hash160 data))) ∧
    (∃ s, make hs net .p2wsh data = .ok s ∧
        decode hs net s = .ok (.p2wsh, Spec.Address.scriptPubKey .p2wsh (hs.sha256 data))) := by
  constructor
  · intro hlen
    obtain ⟨s, hmk, h41, hdec⟩ := Proofs.Address.makeWitness_ok net (segwit_nets_ok net hnet)
      (hs.hash160 data) (Or.inl (hl.h160 data))
    exact ⟨s, by rw [Proofs.Address.make_p2wpkh, if_pos hlen]; exact hmk,
      by rw [Proofs.Address.decode_of_bech32 hs hdec h41, if_pos (hl.h160 data)]⟩
  · obtain ⟨s, hmk, h41, hdec⟩ := Proofs.Address.makeWitness_ok net (segwit_nets_ok net hnet)
      (hs.sha256 data) (Or.inr (hl.s256 data))
    have h32 := hl.s256 data
    exact ⟨s, hmk, by rw [Proofs.Address.decode_of_bech32 hs hdec h41, if_neg (by omega), if_pos h32]⟩

example : HashLengths ⟨fun _ => List.replicate 20 1, fun _ => List.replicate 32 2, fun _ => [1, 2, 3, 4]⟩ :=
  ⟨fun _ => rfl, fun _ => rfl, fun _ => rfl⟩

/-- the published version prefixes are canonical (`EncodeVersion` writes exactly these bytes) -/
theorem spec_versions_canonical : ∀ n ∈ Spec.Address.networks,
    Base58Check.versionBytes (beNat n.p2pkhVersion) = n.p2pkhVersion ∧
    Base58Check.versionBytes (beNat n.p2shVersion) = n.p2shVersion := by decide

/-- P2PKH and P2SH addresses equal those of the reference encoder (published version bytes,
    Base58Check as specified), on each of the four networks, for every hash and checksum function -/
theorem addr_eq_reference_base58 (hs : Hashes) (n : Spec.Address.Net) (hn : n ∈ Spec.Address.networks)
    (h : Bytes) :
    Spec.Address.addressOfHash hs.cksum n .p2pkh h = some (makeP2PKHFromHash hs (ofSpec n) h) ∧
    Spec.Address.addressOfHash hs.cksum n .p2sh h = some (makeP2SHFromHash hs (ofSpec n) h) := by
  obtain ⟨h1, h2⟩ := spec_versions_canonical n hn
  constructor
  · simp only [Spec.Address.addressOfHash, makeP2PKHFromHash, Base58Check.encodeVersion, ofSpec, h1,
      Proofs.Address.base58check_eq_spec]
  · simp only [Spec.Address.addressOfHash, makeP2SHFromHash, Base58Check.encodeVersion, ofSpec, h2,
      Proofs.Address.base58check_eq_spec]

/-- the published HRPs are not empty and short enough for a 32-byte program -/
theorem spec_hrps : ∀ n ∈ Spec.Address.networks, ∀ hrp, n.hrp = some hrp → hrp ≠ [] ∧ hrp.length ≤ 30 := by
  decide

/-- P2WPKH / P2WSH addresses equal those of the reference encoder (published HRP, witness
    version 0, `convertbits(program, 8, 5)`, BIP173 checksum) on the three segwit networks, and
    both sides refuse on Zcash -/
theorem addr_eq_reference_segwit (hs : Hashes) (n : Spec.Address.Net) (hn : n ∈ Spec.Address.networks)
    (h : Bytes) (hl : h.length = 20 ∨ h.length = 32) :
    Spec.Bech32.toOutcome (Spec.Address.addressOfHash hs.cksum n .p2wpkh h) =
      makeP2WPKHFromHash (ofSpec n) h ∧
    Spec.Address.addressOfHash hs.cksum n .p2wsh h = Spec.Address.addressOfHash hs.cksum n .p2wpkh h := by
  refine ⟨?_, rfl⟩
  cases hh : n.hrp with
  | none =>
    rw [Proofs.Address.makeP2WPKHFromHash_nil _ h (by simp only [ofSpec, hh])]
    simp only [Spec.Address.addressOfHash, hh, Spec.Bech32.toOutcome]
  | some hrp =>
    obtain ⟨hne, hshort⟩ := spec_hrps n hn hrp hh
    obtain ⟨hhne, hlen⟩ := Proofs.Address.segwit_fits hrp h hl hshort
    rw [Proofs.Address.makeP2WPKHFromHash_eq _ h (by simp only [ofSpec, hh]; exact hne)]
    simp only [Spec.Address.addressOfHash, hh, ofSpec]
    exact Proofs.Bech32.encode_eq_spec hrp 0 h hhne (by decide) hlen

/-! ### the statements of the property, for all four formats at once -/

def fmtOf : Spec.Address.Kind → Format
  | .p2pkh => .p2pkh
  | .p2sh => .p2sh
  | .p2wpkh => .p2wpkh
  | .p2wsh => .p2wsh

def isSegwit : Spec.Address.Kind → Bool
  | .p2wpkh | .p2wsh => true
  | _ => false

def hashLen : Spec.Address.Kind → Nat
  | .p2wsh => 32
  | _ => 20

theorem makeFromHash_eq (hs : Hashes) (net : Network) (k : Spec.Address.Kind) (h : Bytes)
    (hl : h.length = hashLen k) :
    makeFromHash hs net (fmtOf k) h =
      match k with
      | .p2pkh => .ok (makeP2PKHFromHash hs net h)
      | .p2sh => .ok (makeP2SHFromHash hs net h)
      | .p2wpkh | .p2wsh => makeP2WPKHFromHash net h := by
  rw [Proofs.Address.makeFromHash_of_length hs net (fmtOf k) h (by cases k <;> exact hl)]
  cases k <;> rfl

/-- **addr_roundtrip**: on every supported network (for the segwit formats: every supported
    network that has them) the address made from a hash decodes to the format and to the standard
    scriptPubKey committing to that hash -/
theorem addr_roundtrip (hs : Hashes) (hck : ∀ x, (hs.cksum x).length = 4) (net : Network)
    (hnet : net ∈ supported) (k : Spec.Address.Kind) (hseg : isSegwit k = true → net ∈ segwitNets)
    (h : Bytes) (hl : h.length = hashLen k) :
    ∃ s, makeFromHash hs net (fmtOf k) h = .ok s ∧
      decode hs net s = .ok (fmtOf k, Spec.Address.scriptPubKey k h) := by
  rw [makeFromHash_eq hs net k h hl]
  cases k with
  | p2pkh => exact ⟨_, rfl, addr_roundtrip_p2pkh hs hck net hnet h hl⟩
  | p2sh => exact ⟨_, rfl, addr_roundtrip_p2sh hs hck net hnet h hl⟩
  | p2wpkh =>
    have h20 : h.length = 20 := hl
    obtain ⟨s, hmk, h41, hdec⟩ := Proofs.Address.makeWitness_ok net (segwit_nets_ok net (hseg rfl)) h (Or.inl hl)
    exact ⟨s, hmk, by rw [Proofs.Address.decode_of_bech32 hs hdec h41, if_pos h20]; rfl⟩
  | p2wsh =>
    obtain ⟨s, hmk, h41, hdec⟩ := Proofs.Address.makeWitness_ok net (segwit_nets_ok net (hseg rfl)) h (Or.inr hl)
    have h32 : h.length = 32 := hl
    exact ⟨s, hmk, by rw [Proofs.Address.decode_of_bech32 hs hdec h41, if_neg (by omega), if_pos h32]; rfl⟩

/-- **cross_network_rejected**: an address made for one supported network is refused under every
    other supported network, for all four formats -/
theorem cross_network_rejected (hs : Hashes) (hck : ∀ x, (hs.cksum x).length = 4) (a b : Network)
    (ha : a ∈ supported) (hb : b ∈ supported) (hab : a ≠ b) (k : Spec.Address.Kind)
    (hseg : isSegwit k = true → a ∈ segwitNets) (h : Bytes) (hl : h.length = hashLen k) :
    ∃ s, makeFromHash hs a (fmtOf k) h = .ok s ∧ decode hs b s = .err := by
  rw [makeFromHash_eq hs a k h hl]
  cases k with
  | p2pkh => exact ⟨_, rfl, (cross_network_rejected_base58 hs hck a b ha hb hab h hl).1⟩
  | p2sh => exact ⟨_, rfl, (cross_network_rejected_base58 hs hck a b ha hb hab h hl).2⟩
  | p2wpkh => exact cross_network_rejected_segwit hs a b (hseg rfl) hb hab h (Or.inl hl)
  | p2wsh => exact cross_network_rejected_segwit hs a b (hseg rfl) hb hab h (Or.inr hl)

/-- **addr_eq_reference**: on each of the four networks and for each format, `MakeFromHash` returns
    exactly what the independent reference encoder returns (including the refusal of the segwit
    formats on Zcash) -/
theorem addr_eq_reference (hs : Hashes) (n : Spec.Address.Net) (hn : n ∈ Spec.Address.networks)
    (k : Spec.Address.Kind) (h : Bytes) (hl : h.length = hashLen k) :
    Spec.Bech32.toOutcome (Spec.Address.addressOfHash hs.cksum n k h) =
      makeFromHash hs (ofSpec n) (fmtOf k) h := by
  rw [makeFromHash_eq hs (ofSpec n) k h hl]
  cases k with
  | p2pkh => rw [(addr_eq_reference_base58 hs n hn h).1]; rfl
  | p2sh => rw [(addr_eq_reference_base58 hs n hn h).2]; rfl
  | p2wpkh => exact (addr_eq_reference_segwit hs n hn h (Or.inl hl)).1
  | p2wsh =>
    have := addr_eq_reference_segwit hs n hn h (Or.inr hl)
    rw [this.2]; exact this.1

/-- the hypotheses are satisfiable: a concrete checksum function, hash and network -/
example : decode ⟨id, id, fun _ => [1, 2, 3, 4]⟩ bitcoin
    (makeP2SHFromHash ⟨id, id, fun _ => [1, 2, 3, 4]⟩ bitcoin (List.replicate 20 7)) =
    .ok (.p2sh, Spec.Address.scriptPubKey .p2sh (List.replicate 20 7)) :=
  addr_roundtrip_p2sh _ (fun _ => rfl) bitcoin List.mem_cons_self _ List.length_replicate

/-! ### the string tests of `Make`, `MakeFromHash` and `Decode`

The model dispatches on an inductive `Format` and compares HRPs as byte lists; the source compares strings.
The regenerated guards of those tests are pinned here: each `case` of the two switches is the test for
exactly one format name (the names are the regenerated constants), `MakeFromHash` asks for 32 bytes for
`P2WSH` only, and the HRP test is plain inequality with the current network's HRP. -/

open BtcVerif.Gen BtcVerif.Gen.Guards in
/-- the `AddressFormat` string of a model format (`other` is represented by the empty string, one string that is none of the four) -/
def formatName : Format → String
  | .p2pkh => constants_FormatP2PKH
  | .p2sh => constants_FormatP2SH
  | .p2wpkh => constants_FormatP2WPKH
  | .p2wsh => constants_FormatP2WSH
  | .other => ""

open BtcVerif.Gen BtcVerif.Gen.Guards in
theorem format_switches_pinned (f : Format) :
    address_Make_0 (addressFormat := formatName f) = decide (f = .p2pkh) ∧
    address_Make_1 (addressFormat := formatName f) = decide (f = .p2sh) ∧
    address_Make_2 (addressFormat := formatName f) = decide (f = .p2wpkh) ∧
    address_Make_3 (addressFormat := formatName f) = decide (f = .p2wsh) ∧
    address_MakeFromHash_1 (addressFormat := formatName f) = decide (f = .p2wsh) ∧
    address_MakeFromHash_3 (addressFormat := formatName f) = decide (f = .p2pkh) ∧
    address_MakeFromHash_4 (addressFormat := formatName f) = decide (f = .p2sh) ∧
    address_MakeFromHash_5 (addressFormat := formatName f) = decide (f = .p2wpkh) ∧
    address_MakeFromHash_6 (addressFormat := formatName f) = decide (f = .p2wsh) := by
  cases f <;> decide

open BtcVerif.Gen.Guards in
theorem hrp_test_pinned (hrp net : String) :
    address_Decode_2 (hrp := hrp) (constants_CurrentNetwork_Bech32 := net) = decide (hrp ≠ net) := rfl

end BtcVerif.Props.C09
