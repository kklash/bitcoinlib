/-
  C17 — parsers of untrusted data never panic, hang or over-allocate.

  * never panic: for every parser model (all slice indexing, `make`, conversions bounds-checked and
    able to yield `Outcome.panic`) and EVERY input, the result is a value or an error;
  * never hang: every model function is structurally recursive or fuel-bounded with fuel computed
    from the input length, so Lean's termination checker has accepted it;
  * never over-allocate: the allocation-explicit decoders of `Model/Alloc.lean` (proved to compute
    the same results as the plain decoders) allocate at most a fixed constant (< 2.2 MB) plus 75 bytes
    per input byte, for every input. The constant is a literal; its proof uses the library's limits as
    they stand in the regenerated guards, so a raised limit breaks the proof.
  The parsers owned by other properties contribute their own theorems (re-exported here).
-/
import BtcVerif.Props.GuardPins.P_address
import BtcVerif.Props.GuardPins.P_wif
import BtcVerif.Props.GuardPins.P_bip39
import BtcVerif.Props.GuardPins.P_base58check
import BtcVerif.Props.GuardPins.P_base58
import BtcVerif.Props.GuardPins.P_bech32
import BtcVerif.Props.GuardPins.P_der
import BtcVerif.Props.GuardPins.P_script
import BtcVerif.Props.GuardPins.P_varint
import BtcVerif.Props.GuardPins.P_blocks_blockheader
import BtcVerif.Props.GuardPins.P_blocks
import BtcVerif.Props.GuardPins.P_tx
import BtcVerif.Proofs.Alloc
import BtcVerif.Proofs.ParsersNoPanic
import BtcVerif.Proofs.Accessors
import BtcVerif.Props.C11
import BtcVerif.Props.C06
import BtcVerif.Props.C08
import BtcVerif.Props.C10
import BtcVerif.Props.C14
import BtcVerif.Proofs.AddressNoPanic
import BtcVerif.Gen.Constants

namespace BtcVerif.Props.C17
open BtcVerif BtcVerif.Model BtcVerif.Parser

theorem varint_no_panic (s : Bytes) : decVarint s ≠ .panic := decVarint_ne_panic s
theorem input_no_panic (s : Bytes) : decTxIn s ≠ .panic := noPanic_decTxIn s
theorem output_no_panic (s : Bytes) : decTxOut s ≠ .panic := noPanic_decTxOut s
theorem witness_no_panic (s : Bytes) : decWitness s ≠ .panic := noPanic_decWitness s
theorem tx_no_panic (s : Bytes) : decTx s ≠ .panic := noPanic_decTx s
theorem header_no_panic (s : Bytes) : decHeader s ≠ .panic := noPanic_decHeader s
theorem block_no_panic (s : Bytes) : decBlock s ≠ .panic := noPanic_decBlock s
theorem readData_no_panic (s : Bytes) : readData s ≠ .panic := readData_ne_panic s
theorem readNumber_no_panic (s : Bytes) : readNumber s ≠ .panic := readNumber_ne_panic s
theorem decompile_no_panic (s : Bytes) : decompile s ≠ .panic := Proofs.Script.decompile_ne_panic s
theorem stackify_no_panic (s : Bytes) : stackify s ≠ .panic := stackify_ne_panic s
theorem strip_no_panic (s : Bytes) (op : UInt8) : stripOpCode s op ≠ .panic := Proofs.Script.strip_ne_panic s op
theorem der_no_panic (bs : Bytes) : (BtcVerif.Model.DER.decode bs).isPanic = false := BtcVerif.Props.C11.der_no_panic bs

/-! the text parsers (theorems owned by C08, C10, C14; the address decoder's is in Proofs/AddressNoPanic.lean).
    The public-key parser's theorem is `Props.C06.deserialize_no_panic` (imported, stated there over an abstract curve). -/
theorem base58_no_panic (s : Bytes) : Base58.decode s ≠ .panic := BtcVerif.Props.C08.b58_no_panic s
theorem base58check_no_panic (ck : Bytes → Bytes) (s : Bytes) : Base58Check.decode ck s ≠ .panic :=
  BtcVerif.Props.C08.b58c_no_panic ck s
theorem bech32_no_panic (s : Bytes) : Bech32.decode s ≠ .panic := BtcVerif.Props.C08.no_panic s
theorem address_no_panic (hs : Address.Hashes) (net : Address.Network) (s : Bytes) :
    Address.decode hs net s ≠ .panic := Address.decode_ne_panic hs net s
theorem wif_no_panic (ck : Bytes → Bytes) (s : Bytes) : Wif.decode ck s ≠ .panic :=
  BtcVerif.Props.C10.wif_no_panic ck s
theorem xkey_no_panic (ck : Bytes → Bytes) (pubOk : Bytes → Bool) (s : Bytes) :
    XKey.deserialize ck pubOk s ≠ .panic := BtcVerif.Props.C10.xkey_no_panic ck pubOk s
theorem mnemonic_no_panic (csByte : Bytes → UInt8) (ws : List Bytes) :
    BtcVerif.Props.C14.decodeW csByte ws ≠ Outcome.panic := (BtcVerif.Props.C14.bip39_no_panic csByte [] ws).2

/-! a decoded transaction can always be serialised again (sizes are plain numbers in the model) -/
theorem decoded_tx_serialises (s rest : Bytes) (tx : Tx) (h : decTx s = .ok (tx, rest)) (w : Bool) :
    ∃ bs, encTx tx w = .ok bs := Model.decoded_tx_serialises h w

theorem cost_model_refines_tx (s : Bytes) : (cdecTx s).1 = decTx s := congrFun erase_cdecTx s
theorem cost_model_refines_block (s : Bytes) : (cdecBlock s).1 = decBlock s := congrFun erase_cdecBlock s

theorem tx_alloc_bound (s : Bytes) : (cdecTx s).2 ≤ txAllocConst + 74 * s.length := cdecTx_alloc_le s

theorem block_alloc_bound (s : Bytes) : (cdecBlock s).2 ≤ blockAllocConst + 75 * s.length := cdecBlock_alloc_le s

/-- the block constant is at most 32 MiB, and the limits that the bounds of `Proofs/Alloc.lean` assume are
    at least the ones the source declares (`Gen.Constants` is regenerated on every run) -/
theorem alloc_constants_small :
    blockAllocConst ≤ 32 * 1024 * 1024 ∧
    BtcVerif.Gen.constants_BlockMaxSize ≤ 1000000 ∧
    BtcVerif.Gen.tx_InputsMaximumCount ≤ 24390 ∧
    BtcVerif.Gen.tx_OutputsMaximumCount ≤ 111111 ∧
    BtcVerif.Gen.tx_WitnessChunkCountMaximum ≤ 10000 ∧
    BtcVerif.Gen.tx_WitnessMaximumSize ≤ 0x20000000 := by decide

/-! non-vacuity: a six-byte message declaring a 512 MiB witness item costs 24 + 131072 bytes in the
    model (one slice header, two 64 KiB steps of the incremental reader), not the declared 512 MiB -/
example : (cdecWitness [0x01, 0xfe, 0x00, 0x00, 0x00, 0x20]).2 = 24 + 8 * 0 + 131072 := by decide

end BtcVerif.Props.C17
