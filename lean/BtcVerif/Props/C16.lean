/-
C16 — block streaming is complete, ordered and exactly-once under every schedule.

The statements are about the labelled transition system `BtcVerif.Model.Stream` (a model of the protocol
between the worker goroutines, the closer, the re-ordering goroutine, the consumer and the environment;
see the header of `Model/Stream.lean`), for ARBITRARY range `lo ≤ hi` and parallelism `p`: every theorem
quantifies over every reachable state, i.e. over every interleaving of the components, every order of RPC
completions, every placement of RPC faults and non-linking blocks, and cancellation at any point.
The tie to the Go code is trace validation: every event sequence observed from the real `blockscan` code
under the harness' controlled schedules must be accepted by `validTrace`, and `validTrace_sound` says the
accepted sequences are traces of the transition system the theorems are about.
-/
import BtcVerif.Props.GuardPins.P_blockscan
import BtcVerif.Proofs.StreamProgress
import BtcVerif.Proofs.StreamVariant
import BtcVerif.Proofs.StreamComplete
import BtcVerif.Proofs.Reorder
import BtcVerif.Proofs.ReorderComplete
import BtcVerif.Model.Rpc

namespace BtcVerif.Props.C16
open BtcVerif.Model.Stream

/-- The executable validator used by the correspondence check accepts only traces of the model. -/
theorem validTrace_sound (P : Params) (es : List Event) (h : validTrace P es = true) :
    ∃ t, Trace P (init P) es t :=
  BtcVerif.Model.Stream.validTrace_sound P es h

/-- No reachable state is a panic — for every range including the single-block range `lo = hi` (D17), on an
early end of the stream (D18) and whatever the RPC outcomes are (D19 is the environment's `err` outcome). -/
theorem no_panic {P : Params} (hP : P.lo ≤ P.hi) {s : State} (hr : Reachable P s) : s.panicked = false :=
  (reachable_inv hP hr).np

/-- Ordered streaming and the UTXO scan: what has been returned to the caller is always exactly
`lo, lo+1, …` — ascending, contiguous, each height once, never beyond `hi`. -/
theorem ordered_prefix {P : Params} (hP : P.lo ≤ P.hi) (hm : P.mode ≠ .unordered) {s : State}
    (hr : Reachable P s) :
    s.delivered = List.range' P.lo s.delivered.length ∧ s.delivered.length ≤ P.hi + 1 - P.lo :=
  (reachable_ordInv hP hm hr).delivered_prefix

/-- Ordered streaming: an end-of-stream signal that was preceded neither by a cancel nor by an error
returned from `next()` means the whole range was delivered.  Hence every RPC failure and every broken
link surfaces as an error from a call before the end of the stream. -/
theorem no_false_success {P : Params} (hP : P.lo ≤ P.hi) (hm : P.mode = .ordered) {s : State}
    (hr : Reachable P s) (he : s.ended = true) (hc : s.cancel0 = false) (herr : s.errs = 0) :
    s.delivered = fullRange P :=
  (reachable_ordInv hP (by simp [hm]) hr).no_false_success (reachable_inv hP hr) hm he hc herr

/-- Unordered streaming never delivers a height twice and never a height outside the range; and an
end-of-stream signal preceded neither by a cancel nor by an error means that the delivered heights are a
permutation of `[lo..hi]` (for parallelism ≥ 1). -/
theorem unordered_exactly_once {P : Params} (hP : P.lo ≤ P.hi) (hm : P.mode = .unordered) {s : State}
    (hr : Reachable P s) :
    (s.delivered.Nodup ∧ ∀ h ∈ s.delivered, P.lo ≤ h ∧ h ≤ P.hi) ∧
    (0 < P.p → s.ended = true → s.cancel0 = false → s.errs = 0 → s.delivered.Perm (fullRange P)) :=
  have h1 := reachable_inv hP hr
  have h3 := reachable_unordInv hP hm hr
  ⟨h3.exactly_once, fun hp he hc herr => h3.complete h1 hp ((h1.ended_iff (by simp [hm])).mp he)
    (by simpa [State.streamClosed, hm] using h1.closed_of_end (.inr he)) hc herr⟩

/-- `UpdateUtxos` returns nil only after every block of the range was applied, in order — whatever faults
and cancellations happened. -/
theorem utxo_no_false_success {P : Params} (hP : P.lo ≤ P.hi) (hm : P.mode = .utxo) {s : State}
    (hr : Reachable P s) (hret : s.ret = some true) : s.delivered = fullRange P :=
  (reachable_ordInv hP (by simp [hm]) hr).utxo_success hm hret

/-- Cancelling the context makes `UpdateUtxos` return an error, unless every block of the range had been
applied anyway (a scan that skipped blocks never reports success). -/
theorem cancel_yields_error {P : Params} (hP : P.lo ≤ P.hi) (hm : P.mode = .utxo) {s : State}
    (hr : Reachable P s) (_hc : s.cancel0 = true) (r : Bool) (hret : s.ret = some r) :
    r = false ∨ s.delivered = fullRange P := by
  cases r
  · exact .inl rfl
  · exact .inr (utxo_no_false_success hP hm hr hret)

/-- The UTXO scan equals the sequential fold (C15 supplies `applyBlock`; here it is abstract): at every
reachable state the accumulated set is the fold over `lo, lo+1, …`, and after a nil return over `[lo..hi]`. -/
theorem utxo_scan_eq_sequential {S B : Type} (applyBlock : S → B → S) (chain : Nat → B) (s0 : S)
    {P : Params} (hP : P.lo ≤ P.hi) (hm : P.mode = .utxo) {s : State} (hr : Reachable P s) :
    (s.delivered.map chain).foldl applyBlock s0
        = ((List.range' P.lo s.delivered.length).map chain).foldl applyBlock s0
    ∧ (s.ret = some true →
        (s.delivered.map chain).foldl applyBlock s0 = ((fullRange P).map chain).foldl applyBlock s0) := by
  constructor
  · rw [← (ordered_prefix hP (by simp [hm]) hr).1]
  · intro h; rw [utxo_no_false_success hP hm hr h]

/-- The consumer is never blocked for ever, progress: in every reachable state in which the consumer has not
finished — it is inside `next()`, or inside `UpdateUtxos` — some component can move, and not merely the
environment's cancel: there is no deadlock, for any range, parallelism, fault placement or cancellation.
(RPC completions count as steps: the node is assumed to answer every request, with an error if need be;
the choice among ready `select` cases is assumed fair — the residue named in DESIGN.md.) -/
theorem consumer_progress {P : Params} (hP : P.lo ≤ P.hi) {s : State} (hr : Reachable P s)
    (hc : s.cph ≠ .finished) : ∃ l s', Step P s l s' ∧ l ≠ some .cancel :=
  (reachable_inv hP hr).progress hc

/-- The consumer is never blocked for ever, termination: `variant` strictly decreases with every step of every
component. -/
theorem variant_decreases {P : Params} (hP : P.lo ≤ P.hi) {s : State} {l : Label} {s' : State}
    (hr : Reachable P s) (hst : Step P s l s') : variant P s' < variant P s :=
  variant_step (reachable_inv hP hr) (fun hm => reachable_ordInv hP hm hr) (step_inv hP hst)

/-- Hence no run from a reachable state is longer than the variant of that state.  With `consumer_progress`: every
maximal run is finite and ends with the consumer finished. -/
theorem runs_are_finite {P : Params} (hP : P.lo ≤ P.hi) {s t : State} {n : Nat} (hr : Reachable P s)
    (h : Run P s n t) : n + variant P t ≤ variant P s := by
  induction h with
  | nil => omega
  | cons hst _ ih =>
    have := variant_decreases hP hr hst
    have := ih (hr.step hst)
    omega

/-- Ordered streaming is complete: a state reached WITHOUT any fault (no failing RPC, no non-linking block)
and without a cancel (`ReachableNF`), in which nothing but a cancel can happen any more (the end of a maximal
run), has delivered exactly `[lo..hi]` in ascending order, has returned no error, and has signalled the end of
the stream — for every range, every parallelism `p ≥ 1` and every interleaving.  (For `p = 0` the Go code
starts no worker and reports a broken link; the property quantifies over `p ≥ 1`.)  The core is
`no_spurious_link_error`: in such a run the re-orderer never observes the closed worker queues while a block
is still missing: all workers being done, the awaited height `cur` was handed over, hence is buffered or being
sent — which it is not while the re-orderer waits in its `select`. -/
theorem ordered_complete {P : Params} (hP : P.lo ≤ P.hi) (hm : P.mode = .ordered) (hp : 0 < P.p) {s : State}
    (hr : ReachableNF P s) (hterm : ∀ l s', Step P s l s' → l = some .cancel) :
    s.delivered = fullRange P ∧ s.ended = true ∧ s.errs = 0 := by
  have h1 := reachable_inv hP hr.reachable
  have hnf := reachableNF_inv hP (by simp [hm]) hp hr
  have he := (h1.ended_iff (by simp [hm])).mpr (h1.finished_of_terminal hterm)
  exact ⟨no_false_success hP hm hr.reachable he hnf.c0 hnf.er, he, hnf.er⟩

/-- The UTXO scan is complete: at the end of a maximal run without fault and without cancel `UpdateUtxos`
has returned nil and has applied exactly `[lo..hi]` in order (so by `utxo_scan_eq_sequential` the set equals
the sequential fold over the range). -/
theorem utxo_complete {P : Params} (hP : P.lo ≤ P.hi) (hm : P.mode = .utxo) (hp : 0 < P.p) {s : State}
    (hr : ReachableNF P s) (hterm : ∀ l s', Step P s l s' → l = some .cancel) :
    s.ret = some true ∧ s.delivered = fullRange P := by
  have hret := (reachableNF_inv hP (by simp [hm]) hp hr).retOk hm
    ((reachable_inv hP hr.reachable).finished_of_terminal hterm)
  exact ⟨hret, utxo_no_false_success hP hm hr.reachable hret⟩

/-- Unordered streaming is complete: at the end of a maximal run without fault and without cancel the
delivered heights are a permutation of `[lo..hi]`, no error was returned and the end was signalled. -/
theorem unordered_complete {P : Params} (hP : P.lo ≤ P.hi) (hm : P.mode = .unordered) (hp : 0 < P.p) {s : State}
    (hr : ReachableNF P s) (hterm : ∀ l s', Step P s l s' → l = some .cancel) :
    s.delivered.Perm (fullRange P) ∧ s.ended = true ∧ s.errs = 0 := by
  have h1 := reachable_inv hP hr.reachable
  have hnf := reachableNF_invU hP hm hr
  have he := (h1.ended_iff (by simp [hm])).mpr (h1.finished_of_terminal hterm)
  exact ⟨(unordered_exactly_once hP hm hr.reachable).2 hp he hnf.c0 hnf.er, he, hnf.er⟩

/-- Complete or error: a maximal run of ordered streaming (with any faults) that saw no cancel and in which
`next()` returned no error has delivered exactly `[lo..hi]` and signalled the end. -/
theorem ordered_complete_or_error {P : Params} (hP : P.lo ≤ P.hi) (hm : P.mode = .ordered) {s : State}
    (hr : Reachable P s) (hterm : ∀ l s', Step P s l s' → l = some .cancel)
    (hc : s.cancel0 = false) (herr : s.errs = 0) :
    s.delivered = fullRange P ∧ s.ended = true := by
  have h1 := reachable_inv hP hr
  have he := (h1.ended_iff (by simp [hm])).mpr (h1.finished_of_terminal hterm)
  exact ⟨no_false_success hP hm hr he hc herr, he⟩

/-! ### the conditions inside the goroutines' function literals

`Gen/Guards.lean` holds, regenerated from the source on every run, one function per condition of the
function literals of `streamBlocks`, `streamBlocksUnordered` and `newNextBlockFunc` (the re-ordering
goroutine, the workers, the consumer's `next`).  The transition system writes these conditions by hand
(its `cur` is Go's `currentHeight + 1`); the theorems below say that what it writes IS what the code
says.  A change of one of these conditions in the source breaks the corresponding theorem. -/

open BtcVerif.Gen.Guards in
/-- head of the re-ordering loop, `for currentHeight < toHeight` (stream_blocks.go) -/
theorem reorderer_loop_head (P : Params) (s : State) (c : Nat) (hc : s.cur = c + 1) :
    loopHead P s =
      if blockscan_BlockScanner_streamBlocks_lit0_1 (currentHeight := c) (toHeight := P.hi)
      then { s with rph := .loop } else exitX s := by
  simp only [loopHead, blockscan_BlockScanner_streamBlocks_lit0_1, hc, Nat.add_one_le_iff, decide_eq_true_eq]

open BtcVerif.Gen.Guards in
/-- `if fromHeight == toHeight` after the first block (the D17 repair): no workers for a single-block range -/
theorem single_block_branch (P : Params) (s : State) (good : Bool) :
    afterFirst P s good =
      if blockscan_BlockScanner_streamBlocks_lit0_0 (fromHeight := P.lo) (toHeight := P.hi)
      then { s with latestOk := good, rph := .s0 }
      else if blockscan_BlockScanner_streamBlocksUnordered_0 (toHeight := P.hi) (fromHeight := P.lo + 1)
      then { s with latestOk := good, panicked := true }
      else { s with latestOk := good, rph := .s0, workers := initWorkers P true, started := true } := by
  simp only [afterFirst, blockscan_BlockScanner_streamBlocks_lit0_0, decide_eq_true_eq]

open BtcVerif.Gen.Guards in
/-- a worker returns when `nBlockToGet > toHeight` (stream_blocks_unordered.go), at its first height and
after every block it has handed over -/
theorem worker_exit_condition (P : Params) :
    (∀ w, advance P w =
      { pos := w.pos + P.p,
        ph := if blockscan_BlockScanner_streamBlocksUnordered_lit0_0 (nBlockToGet := w.pos + P.p) (toHeight := P.hi)
              then .done else .next }) ∧
    (∀ i, initWorker P true i =
      { pos := P.base + i,
        ph := if blockscan_BlockScanner_streamBlocksUnordered_lit0_0 (nBlockToGet := P.base + i) (toHeight := P.hi)
              then .done else .next }) := by
  constructor
  · intro w
    simp only [advance, blockscan_BlockScanner_streamBlocksUnordered_lit0_0, gt_iff_lt, decide_eq_true_eq]
    by_cases h : w.pos + P.p ≤ P.hi
    · simp [h, Nat.not_lt.mpr h]
    · simp [h, Nat.lt_of_not_le h]
  · intro i
    simp only [initWorker, blockscan_BlockScanner_streamBlocksUnordered_lit0_0, gt_iff_lt, decide_eq_true_eq, if_true]
    by_cases h : P.base + i ≤ P.hi
    · simp [h, Nat.not_lt.mpr h]
    · simp [h, Nat.lt_of_not_le h]

open BtcVerif.Gen.Guards in
/-- the remaining conditions of the three function literals are plain tests of a received flag: closed
queues (`!more`, twice in the re-orderer, once in `next`), a block found under the latest hash (`ok`),
and `channelsClosed`; the model's steps `loop → rel` (closed ⇒ `closedSeen`), `rel` (`buf.contains cur`,
then `closedSeen ⇒ sendErr`) and `call → gotEnd` test exactly these flags -/
theorem flag_tests_pinned :
    (∀ b, blockscan_BlockScanner_streamBlocks_lit0_2 (more := b) = !b) ∧
    (∀ b, blockscan_BlockScanner_streamBlocks_lit0_3 (more := b) = !b) ∧
    (∀ b, blockscan_BlockScanner_streamBlocks_lit0_4 (ok := b) = b) ∧
    (∀ b, blockscan_BlockScanner_streamBlocks_lit0_5 (channelsClosed := b) = b) ∧
    (∀ b, blockscan_newNextBlockFunc_lit0_0 (more := b) = !b) :=
  ⟨fun _ => rfl, fun _ => rfl, fun _ => rfl, fun _ => rfl, fun _ => rfl⟩


/-! ### the ordering buffer as the map it is: blocks of other branches (`Model/Reorder.lean`)

The transition system above lets the node answer a height with that height's block, with an error, or with a
block that links to nothing.  Here the node may answer with ANY blocks — siblings that compete for a key of
`blocksByPrevHash`, repeats, blocks of another chain — in any order.  Whatever it serves, the re-ordering
goroutine ends without an error only after it has handed out at least `toHeight − fromHeight` further blocks,
each naming its predecessor by hash, starting from the first block: a short or unlinked scan is never a
success. -/

open BtcVerif.Model.Reorder in
theorem reorderer_success_is_a_full_chain (fromHeight toHeight first : Nat) (evs : List Ev)
    (hdone : (run fromHeight toHeight first evs).res = .done) :
    Chain first (run fromHeight toHeight first evs).out ∧
    toHeight - fromHeight ≤ (run fromHeight toHeight first evs).out.length ∧
    (run fromHeight toHeight first evs).out.length ≤ blockCount evs := by
  have h := run_inv fromHeight toHeight first evs
  refine ⟨h.chain, ?_, ?_⟩
  · have := h.done hdone
    have := h.cur
    omega
  · have := h.bound
    omega

open BtcVerif.Model.Reorder in
/-- with one block per requested height (what the workers deliver), success means exactly the range -/
theorem reorderer_success_is_exactly_the_range (fromHeight toHeight first : Nat) (evs : List Ev)
    (hn : blockCount evs ≤ toHeight - fromHeight)
    (hdone : (run fromHeight toHeight first evs).res = .done) :
    (run fromHeight toHeight first evs).out.length = toHeight - fromHeight := by
  have := reorderer_success_is_a_full_chain fromHeight toHeight first evs hdone
  omega

open BtcVerif.Model.Reorder in
/-- **completeness**: the blocks of an honest node (block k of the range names block k−1), arriving in ANY order
— any permutation of the heights — and followed by anything (the closed queue), end in success with exactly
the range handed out in chain order.  `reorderer_success_is_a_full_chain` is the other direction: success only
with a chain. -/
theorem reorderer_complete (fromHeight m : Nat) (arrival : List Nat) (hperm : arrival.Perm (List.range' 1 m))
    (tail : List Ev) :
    (run fromHeight (fromHeight + m) 1 (arrival.map (fun k => Ev.blk (honest k)) ++ tail)).res = .done ∧
    (run fromHeight (fromHeight + m) 1 (arrival.map (fun k => Ev.blk (honest k)) ++ tail)).out =
      (List.range' 1 m).map honest := by
  have hg := arrivals_good fromHeight (m := m) hperm
  rw [run, List.foldl_append, finish_foldl_full hg.res (Nat.le_of_eq hg.cur.symm)]
  exact ⟨rfl, hg.out⟩

open BtcVerif.Model.Reorder in
/-- completeness, for every range: an honest node whose blocks arrive in their turn ends in success with the
whole range handed out (the instance of `reorderer_complete` in which nothing waits in the buffer) -/
theorem reorderer_in_order_complete (fromHeight m : Nat) :
    (run fromHeight (fromHeight + m) 1 ((List.range' 1 m).map (fun k => Ev.blk (honest k)))).res = .done ∧
    (run fromHeight (fromHeight + m) 1 ((List.range' 1 m).map (fun k => Ev.blk (honest k)))).out =
      (List.range' 1 m).map honest := by
  simpa only [List.append_nil] using reorderer_complete fromHeight m (List.range' 1 m) (.refl _) []

open BtcVerif.Model.Reorder in
/-- the theorem discriminates: the variant that stops counting heights (seeded change C16-R6A of DESIGN.md II.7) reports success
after two of three blocks when the node serves a sibling of block 2 for height 3 while block 1 is outstanding;
the library's loop reports the broken link -/
theorem reorderer_without_counting_accepts_a_short_scan :
    let evs : List Ev := [.blk ⟨12, 11⟩, .blk ⟨93, 11⟩, .blk ⟨11, 10⟩, .closed]
    (runNoCount 100 10 evs).res = .done ∧ (runNoCount 100 10 evs).out.length = 2 ∧
    (run 100 103 10 evs).res = .err := by
  decide

/-! ### what counts as an RPC failure: the reply classification of `rpc.Connection` (`Model/Rpc.lean`)

"An RPC failure surfaces as an error" starts at the connection: the transition system above takes "the RPC
returned an error" as an environment event; these theorems say which replies are that event.  The conditions
are the regenerated guards of `RequestSetResult`. -/

open BtcVerif.Model.Rpc in
/-- a call returns nil only for a reply that is not a 401, parses, is not `null`, carries no error object and
carries a result: every other reply is an error (or the documented retry of an overloaded node) -/
theorem rpc_success_needs_a_result (r : Reply) (h : classify r = .ok) :
    r.status ≠ 401 ∧ r.body ≠ "Work queue depth exceeded" ∧ r.parseFails = false ∧ r.objNil = false ∧
    r.errorNil = true ∧ r.resultNil = false := by
  obtain ⟨st, body, pf, on, en, rn⟩ := r
  simp only [classify, BtcVerif.Gen.Guards.rpc_Connection_RequestSetResult_0,
    BtcVerif.Gen.Guards.rpc_Connection_RequestSetResult_1, BtcVerif.Gen.Guards.rpc_Connection_RequestSetResult_3,
    BtcVerif.Gen.Guards.rpc_Connection_RequestSetResult_4, BtcVerif.Gen.Guards.rpc_Connection_RequestSetResult_5,
    decide_eq_true_eq, ite_self] at h
  -- `.ok` is the verdict of one path only: every test before it has failed
  by_cases h0 : st = 401
  · rw [if_pos h0] at h; cases h
  rw [if_neg h0] at h
  by_cases h1 : body = "Work queue depth exceeded"
  · rw [if_pos h1] at h; cases h
  rw [if_neg h1] at h
  cases pf
  case true => cases h
  cases on
  case true => cases h
  cases en
  case false => cases h
  cases rn
  case true => cases h
  exact ⟨h0, h1, rfl, rfl, rfl, rfl⟩

open BtcVerif.Model.Rpc in
/-- the node's error object is what the caller gets, whatever the status code and whatever else the reply holds -/
theorem rpc_error_object_surfaces (r : Reply) (h0 : r.status ≠ 401) (h1 : r.body ≠ "Work queue depth exceeded")
    (hp : r.parseFails = false) (hn : r.objNil = false) (he : r.errorNil = false) : classify r = .rpcFailure := by
  unfold classify
  simp [BtcVerif.Gen.Guards.rpc_Connection_RequestSetResult_0, BtcVerif.Gen.Guards.rpc_Connection_RequestSetResult_1,
    BtcVerif.Gen.Guards.rpc_Connection_RequestSetResult_3, BtcVerif.Gen.Guards.rpc_Connection_RequestSetResult_4,
    h0, h1, hp, hn, he]

open BtcVerif.Model.Rpc in
/-- non-vacuity: an ordinary reply is a success, `null` and a null result are not -/
example : classify ⟨200, "{\"result\":5,\"error\":null,\"id\":1}", false, false, true, false⟩ = .ok ∧
    classify ⟨200, "null", false, true, true, true⟩ = .invalidFormat ∧
    classify ⟨200, "{\"result\":null,\"error\":null}", false, false, true, true⟩ = .invalidFormat ∧
    classify ⟨500, "{\"result\":null,\"error\":{\"code\":-8}}", false, false, false, true⟩ = .rpcFailure ∧
    classify ⟨401, "", true, true, true, true⟩ = .invalidCredentials := by decide

/-! ### non-vacuity: the hypotheses are satisfiable, the model runs, the validator discriminates -/

open BtcVerif.Model.Reorder in
/-- an honest node: three further blocks arriving out of order end in success with the three blocks in chain order -/
example : (run 100 103 10 [.blk ⟨13, 12⟩, .blk ⟨11, 10⟩, .blk ⟨12, 11⟩]).res = .done ∧
    (run 100 103 10 [.blk ⟨13, 12⟩, .blk ⟨11, 10⟩, .blk ⟨12, 11⟩]).out = [⟨11, 10⟩, ⟨12, 11⟩, ⟨13, 12⟩] := by decide

example : (⟨.ordered, 100, 101, 2⟩ : Params).lo ≤ (⟨.ordered, 100, 101, 2⟩ : Params).hi := by decide
example : (⟨.utxo, 7, 7, 3⟩ : Params).lo ≤ (⟨.utxo, 7, 7, 3⟩ : Params).hi := by decide   -- single-block range
example (P : Params) : Reachable P (init P) := .init

/-- a complete fault-free ordered run of two blocks with two workers is a trace of the model … -/
example : validTrace ⟨.ordered, 100, 101, 2⟩
    [.req 100 .hash, .rsp 100 .hash .ok, .req 100 .block, .rsp 100 .block .ok, .deliver 100,
     .req 101 .hash, .rsp 101 .hash .ok, .req 101 .block, .rsp 101 .block .ok, .deliver 101, .endOfStream] = true := by
  decide +kernel

/-- … a run that signals the end after the first of two blocks is not … -/
example : validTrace ⟨.ordered, 100, 101, 2⟩
    [.req 100 .hash, .rsp 100 .hash .ok, .req 100 .block, .rsp 100 .block .ok, .deliver 100, .endOfStream] = false := by
  decide +kernel

/-- … nor is a run that swallows an RPC failure; with the error returned first it is. -/
example : validTrace ⟨.ordered, 100, 101, 2⟩ [.req 100 .hash, .rsp 100 .hash .err, .endOfStream] = false := by
  decide +kernel
example : validTrace ⟨.ordered, 100, 101, 2⟩ [.req 100 .hash, .rsp 100 .hash .err, .error, .endOfStream] = true := by
  decide +kernel

/-- a single-block scan (D17) and a cancelled scan (D18) return as the repaired code does -/
example : validTrace ⟨.utxo, 7, 7, 3⟩
    [.req 7 .hash, .rsp 7 .hash .ok, .req 7 .block, .rsp 7 .block .ok, .deliver 7, .utxoReturn true] = true := by
  decide +kernel
example : validTrace ⟨.utxo, 7, 8, 1⟩
    [.req 7 .hash, .rsp 7 .hash .ok, .req 7 .block, .rsp 7 .block .ok, .deliver 7, .cancel, .utxoReturn false] = true := by
  decide +kernel
example : validTrace ⟨.utxo, 7, 8, 1⟩
    [.req 7 .hash, .rsp 7 .hash .ok, .req 7 .block, .rsp 7 .block .ok, .deliver 7, .cancel, .utxoReturn true] = false := by
  decide +kernel

end BtcVerif.Props.C16
