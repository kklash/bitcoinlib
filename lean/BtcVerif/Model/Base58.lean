/-
  Model of `base58/base58.go` and `base58check/{encode,decode}.go` (property C08).

  Go strings are byte strings here (`Bytes`): the code indexes them bytewise.
  `math/big` integers are `Nat`; `SetBytes` is `beNat`, `Bytes()` is `natBytes` (minimal big-endian,
  empty for zero). Core Lean only.
-/
import BtcVerif.Model.Basic
import BtcVerif.Gen.Constants
import BtcVerif.Gen.Guards

namespace BtcVerif.Model

/-- the bytes of a Go string constant -/
def strBytes (s : String) : Bytes := s.toUTF8.data.toList

namespace Base58
open BtcVerif.Gen BtcVerif.Gen.Guards

/-- `base58.Alphabet` (base58.go:12) -/
def alphabet : Bytes := strBytes base58_Alphabet

theorem alphabet_length : alphabet.length = 58 := by decide +kernel

/-- `radix = big.NewInt(int64(len(Alphabet)))` (base58.go:15) -/
def radix : Nat := alphabet.length

theorem radix_eq : radix = 58 := alphabet_length

/-- `AlphabetIndeces[c]` with the `ok` flag (base58.go:25-30, 70): the map is filled in index order;
    the alphabet has no repeated character (`Props.C08.b58_alphabet_nodup`), so first = last. -/
def indexOf : Bytes → UInt8 → Option Nat
  | [], _ => none
  | a :: as, c => if a == c then some 0 else (indexOf as c).map (· + 1)

/-- `Alphabet[d]` for a remainder `d < radix`; the index is in range because `rem < radix =
    len(Alphabet)` (base58.go:41-42). -/
def digitChar (d : Nat) (h : d < radix) : UInt8 := alphabet[d]'h

/-- base58.go:40-43: `for bi != 0 { bi, rem = QuoRem(bi, radix); bs58 = Alphabet[rem] + bs58 }` -/
def encLoop (bi : Nat) (acc : Bytes) : Bytes :=
  if h : base58_Encode_1 (call_bi_Cmp_zero := if bi = 0 then 0 else 1) = true then
    encLoop (bi / radix) (digitChar (bi % radix) (Nat.mod_lt _ (by decide)) :: acc)
  else acc
termination_by bi
decreasing_by
  have : bi ≠ 0 := by
    intro h0; subst h0; simp [base58_Encode_1] at h
  rw [radix_eq]; omega

/-- base58.go:46-52: number of leading zero bytes (`for … if b == 0 … else break`) -/
def leadingZeros : Bytes → Nat
  | [] => 0
  | b :: rest => if base58_Encode_2 (b := b.toNat) then leadingZeros rest + 1 else 0

/-- `base58.Encode` (base58.go:33-55). A nil and an empty slice both give the empty string. -/
def encode (data : Bytes) : Bytes :=
  List.replicate (leadingZeros data) (digitChar 0 (by decide)) ++ encLoop (beNat data) []

/-- base58.go:60-62: `for nZeros < len(bs58) && bs58[nZeros] == Alphabet[0]` -/
def countOnes : Bytes → Nat
  | [] => 0
  | c :: rest => if c == digitChar 0 (by decide) then countOnes rest + 1 else 0

/-- base58.go:68-80: the characters are visited from the last to the first (`bs58[len-i-1]`, always
    in range for `i < len`), so the loop runs over the reversed string with the exponent `i`. -/
def decLoop : Bytes → Nat → Nat → Outcome Nat
  | [], _, ret => .ok ret
  | c :: cs, i, ret =>
    match indexOf alphabet c with
    | none => .err
    | some m => decLoop cs (i + 1) (ret + m * radix ^ i)

/-- `big.Int.Bytes()` accumulator: minimal big-endian bytes -/
def natBytesAux (n : Nat) (acc : Bytes) : Bytes :=
  if h : n = 0 then acc else natBytesAux (n / 256) (UInt8.ofNat (n % 256) :: acc)
termination_by n
decreasing_by omega

/-- `big.Int.Bytes()` -/
def natBytes (n : Nat) : Bytes := natBytesAux n []

/-- `base58.Decode` (base58.go:59-85) -/
def decode (s : Bytes) : Outcome Bytes :=
  let nZeros := countOnes s
  let rest := s.drop nZeros
  match decLoop rest.reverse 0 0 with
  | .ok ret => .ok (List.replicate nZeros 0 ++ natBytes ret)
  | .err => .err
  | .panic => .panic

end Base58

/-! ### Base58Check — parametrised by the checksum function
    (`bhash.DoubleSha256(x)[:4]` in the code; `Prim.dsha256 x |>.take 4` in the oracle; arbitrary in
    the theorems). -/
namespace Base58Check
open BtcVerif.Gen.Guards

/-- `base58check.Encode` (encode.go:31-41, after the D15 repair the input is copied first) -/
def encode (cksum : Bytes → Bytes) (data : Bytes) : Bytes :=
  Base58.encode (data ++ cksum data)

/-- `base58check.EncodeVersion` (encode.go:17-28): one byte for versions up to 0xff, two
    big-endian bytes otherwise (`version` is a `uint16`). -/
def versionBytes (version : Nat) : Bytes :=
  if base58check_EncodeVersion_0 (version := version) then beBytes 1 version else beBytes 2 version

def encodeVersion (cksum : Bytes → Bytes) (data : Bytes) (version : Nat) : Bytes :=
  encode cksum (versionBytes version ++ data)

/-- `base58check.Decode` (decode.go:24-41). The three slice expressions are in range once
    `len ≥ 4`. -/
def decode (cksum : Bytes → Bytes) (s : Bytes) : Outcome Bytes :=
  match Base58.decode s with
  | .err => .err
  | .panic => .panic
  | .ok dec =>
    if base58check_Decode_0 (len_bs58decoded := dec.length) then .err
    else
      let body := dec.take (dec.length - 4)
      let tail := dec.drop (dec.length - 4)
      if base58check_Decode_1
          (call_bytes_Equal_hashed_4_bs58decoded_len_bs58decoded_4 := (cksum body == tail)) then .err
      else .ok body

end Base58Check

end BtcVerif.Model
