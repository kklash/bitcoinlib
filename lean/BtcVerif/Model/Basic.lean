/-
  Core modelling vocabulary (DESIGN.md section 3).

  * `Outcome α`  : Go's three ways for a call to end — a value, an `error`, a run-time panic.
  * `Parser α`   : an `io.Reader` over a byte string, as a state monad over the remaining bytes.
  * `leBytes/leNat` : `binary.Write/Read(…, binary.LittleEndian, uintN)`.

  Everything here is core Lean (no Mathlib) so that the `oracle` executable links.

  The lemmas about `>>=` come in two parallel families, `Outcome.bind_*` and `Parser.bind_*`; a file that opens
  `BtcVerif.Parser` gets the parser ones under the bare names.
-/
import BtcVerif.Gen.Prelude

namespace BtcVerif

abbrev Bytes := List UInt8

inductive Outcome (α : Type) where
  | ok (a : α)
  | err
  | panic
  deriving Repr, DecidableEq, Inhabited

namespace Outcome

def isOk {α} : Outcome α → Bool
  | ok _ => true
  | _ => false

def isPanic {α} : Outcome α → Bool
  | panic => true
  | _ => false

def isErr {α} : Outcome α → Bool
  | err => true
  | _ => false

@[inline] def bind {α β} (x : Outcome α) (f : α → Outcome β) : Outcome β :=
  match x with
  | ok a => f a
  | err => err
  | panic => panic

instance : Monad Outcome where
  pure := ok
  bind := bind

@[simp] theorem bind_ok {α β} (a : α) (f : α → Outcome β) : (ok a >>= f) = f a := rfl
@[simp] theorem bind_err {α β} (f : α → Outcome β) : ((err : Outcome α) >>= f) = err := rfl
@[simp] theorem bind_panic {α β} (f : α → Outcome β) : ((panic : Outcome α) >>= f) = panic := rfl
@[simp] theorem pure_eq {α} (a : α) : (pure a : Outcome α) = ok a := rfl

theorem bind_of_ok {α β} {x : Outcome α} {a : α} (h : x = ok a) (f : α → Outcome β) : (x >>= f) = f a := by
  rw [h, bind_ok]

theorem bind_congr_ok {α β} {x : Outcome α} {f g : α → Outcome β} (h : ∀ a, x = ok a → f a = g a) :
    (x >>= f) = (x >>= g) := by
  cases x with
  | ok a => exact h a rfl
  | err => rfl
  | panic => rfl

theorem bind_eq_ok {α β} {x : Outcome α} {f : α → Outcome β} {b : β} :
    (x >>= f) = ok b ↔ ∃ a, x = ok a ∧ f a = ok b := by
  cases x <;> simp

theorem bind_accepts {α β} {x : Outcome α} {f : α → Outcome β} :
    (∃ b, (x >>= f) = ok b) ↔ ∃ a, x = ok a ∧ ∃ b, f a = ok b := by
  simp only [bind_eq_ok]
  exact ⟨fun ⟨b, a, ha, hb⟩ => ⟨a, ha, b, hb⟩, fun ⟨a, ha, b, hb⟩ => ⟨b, a, ha, hb⟩⟩

theorem bind_ne_panic {α β} {x : Outcome α} {f : α → Outcome β} (hx : x ≠ panic)
    (hf : ∀ a, f a ≠ panic) : (x >>= f) ≠ panic := by
  cases x with
  | ok a => exact hf a
  | err => nofun
  | panic => exact absurd rfl hx

def map {α β} (f : α → β) : Outcome α → Outcome β
  | ok a => ok (f a)
  | err => err
  | panic => panic

def toOption {α} : Outcome α → Option α
  | ok a => some a
  | _ => none

theorem map_eq_ok {α β} {f : α → β} {x : Outcome α} {b : β} :
    x.map f = ok b ↔ ∃ a, x = ok a ∧ f a = b := by
  cases x <;> simp [map]

end Outcome

/-- A reader over the remaining input. -/
abbrev Parser (α : Type) := Bytes → Outcome (α × Bytes)

namespace Parser

@[inline] def ret {α} (a : α) : Parser α := fun s => .ok (a, s)

@[inline] def andThen {α β} (p : Parser α) (f : α → Parser β) : Parser β := fun s =>
  match p s with
  | .ok (a, s') => f a s'
  | .err => .err
  | .panic => .panic

instance : Monad Parser where
  pure := Parser.ret
  bind := Parser.andThen

@[inline] def fail {α} : Parser α := fun _ => .err
@[inline] def crash {α} : Parser α := fun _ => .panic

theorem bind_def {α β} (p : Parser α) (f : α → Parser β) (s : Bytes) :
    (p >>= f) s = match p s with
      | .ok (a, s') => f a s'
      | .err => .err
      | .panic => .panic := rfl

theorem bind_of_ok {α β} {p : Parser α} {f : α → Parser β} {s s' : Bytes} {a : α}
    (h : p s = .ok (a, s')) : (p >>= f) s = f a s' := by
  simp [bind_def, h]

theorem bind_eq_ok {α β} {p : Parser α} {f : α → Parser β} {s : Bytes} {r : β × Bytes} :
    (p >>= f) s = .ok r ↔ ∃ a s', p s = .ok (a, s') ∧ f a s' = .ok r := by
  rw [bind_def]
  cases p s with
  | ok r' => exact ⟨fun h => ⟨r'.1, r'.2, rfl, h⟩, fun ⟨_, _, e, h⟩ => by cases e; exact h⟩
  | err => exact ⟨nofun, fun ⟨_, _, e, _⟩ => nomatch e⟩
  | panic => exact ⟨nofun, fun ⟨_, _, e, _⟩ => nomatch e⟩

theorem pure_bind {α β} (a : α) (f : α → Parser β) : (pure a >>= f) = f a := rfl

theorem bind_of_err {α β} {p : Parser α} {f : α → Parser β} {s : Bytes}
    (h : p s = .err) : (p >>= f) s = .err := by
  simp [bind_def, h]

@[simp] theorem pure_apply {α} (a : α) (s : Bytes) : (Pure.pure a : Parser α) s = .ok (a, s) := rfl

/-- `io.ReadFull(r, buf)` with `len(buf) = n`: all `n` bytes or an error (EOF / UnexpectedEOF).
    (Written with `take` so that a read costs O(n), not O(remaining input).) -/
def readN (n : Nat) : Parser Bytes := fun s =>
  let a := s.take n
  if a.length = n then .ok (a, s.drop n) else .err

theorem readN_eq (n : Nat) (s : Bytes) :
    readN n s = if n ≤ s.length then .ok (s.take n, s.drop n) else .err := by
  rw [readN]
  simp only [List.length_take]
  by_cases h : n ≤ s.length
  · rw [if_pos (Nat.min_eq_left h), if_pos h]
  · rw [if_neg (by omega), if_neg h]

theorem readN_append (bs rest : Bytes) : readN bs.length (bs ++ rest) = .ok (bs, rest) := by
  simp [readN]

theorem readN_append' (n : Nat) (bs rest : Bytes) (h : bs.length = n) :
    readN n (bs ++ rest) = .ok (bs, rest) := by
  subst h; exact readN_append bs rest

theorem readN_ok {n : Nat} {s r rest : Bytes} (h : readN n s = .ok (r, rest)) :
    s = r ++ rest ∧ r.length = n := by
  unfold readN at h
  simp only at h
  split at h
  · rename_i hl
    cases h
    exact ⟨(List.take_append_drop n s).symm, hl⟩
  · cases h

theorem length_of_readN {n : Nat} {s r rest : Bytes} (h : readN n s = .ok (r, rest)) :
    rest.length + n = s.length := by
  obtain ⟨rfl, hl⟩ := readN_ok h
  rw [List.length_append, hl, Nat.add_comm]

theorem readN_ne_panic (n : Nat) (s : Bytes) : readN n s ≠ .panic := by
  unfold readN; simp only; split <;> simp

theorem readN_isOk_iff (n : Nat) (s : Bytes) : (∃ r, readN n s = .ok r) ↔ n ≤ s.length := by
  unfold readN
  simp only [List.length_take]
  constructor
  · rintro ⟨r, h⟩
    split at h
    · omega
    · cases h
  · intro h
    exact ⟨_, by rw [if_pos (by omega)]⟩

def readByte : Parser UInt8 := fun s =>
  match s with
  | [] => .err
  | b :: rest => .ok (b, rest)

@[simp] theorem readByte_cons (b : UInt8) (rest : Bytes) : readByte (b :: rest) = .ok (b, rest) := rfl
@[simp] theorem readByte_nil : readByte [] = .err := rfl

end Parser

/-! ### little-endian integers -/

/-- `k` little-endian bytes of `n` (the low `8k` bits). -/
def leBytes : Nat → Nat → Bytes
  | 0, _ => []
  | k+1, n => UInt8.ofNat (n % 256) :: leBytes k (n / 256)

/-- value of a little-endian byte string -/
def leNat : Bytes → Nat
  | [] => 0
  | b :: bs => b.toNat + 256 * leNat bs

/-- big-endian: `k` bytes -/
def beBytes (k n : Nat) : Bytes := (leBytes k n).reverse
def beNat (bs : Bytes) : Nat := leNat bs.reverse

@[simp] theorem leBytes_length (k n : Nat) : (leBytes k n).length = k := by
  induction k generalizing n with
  | zero => rfl
  | succ k ih => simp [leBytes, ih]

@[simp] theorem beBytes_length (k n : Nat) : (beBytes k n).length = k := by
  simp [beBytes]

theorem leNat_leBytes (k n : Nat) (h : n < 256 ^ k) : leNat (leBytes k n) = n := by
  induction k generalizing n with
  | zero => simp [leNat, leBytes]; omega
  | succ k ih =>
    have h2 : n / 256 < 256 ^ k := by
      rw [Nat.div_lt_iff_lt_mul (by decide)]
      rw [Nat.pow_succ] at h; exact h
    simp only [leBytes, leNat, ih _ h2]
    have : (UInt8.ofNat (n % 256)).toNat = n % 256 := by
      simp [UInt8.toNat_ofNat']
    rw [this]; omega

theorem leNat_lt (bs : Bytes) : leNat bs < 256 ^ bs.length := by
  induction bs with
  | nil => simp [leNat]
  | cons b bs ih =>
    simp only [leNat, List.length_cons, Nat.pow_succ]
    have := b.toNat_lt
    omega

theorem leBytes_leNat (bs : Bytes) : leBytes bs.length (leNat bs) = bs := by
  induction bs with
  | nil => rfl
  | cons b bs ih =>
    simp only [List.length_cons, leBytes, leNat]
    have hb := b.toNat_lt
    have h1 : (b.toNat + 256 * leNat bs) % 256 = b.toNat := by omega
    have h2 : (b.toNat + 256 * leNat bs) / 256 = leNat bs := by omega
    rw [h1, h2, ih]
    simp

theorem beNat_beBytes (k n : Nat) (h : n < 256 ^ k) : beNat (beBytes k n) = n := by
  simp [beNat, beBytes, leNat_leBytes k n h]

theorem beBytes_beNat (bs : Bytes) : beBytes bs.length (beNat bs) = bs := by
  unfold beBytes beNat
  have := leBytes_leNat bs.reverse
  simp only [List.length_reverse] at this
  rw [this]; simp

namespace Parser

/-- `binary.Read(r, LittleEndian, &uintK)` for a `k`-byte unsigned integer. -/
def readLE (k : Nat) : Parser Nat := fun s =>
  match readN k s with
  | .ok (bs, rest) => .ok (leNat bs, rest)
  | .err => .err
  | .panic => .panic

theorem readLE_eq (k : Nat) (s : Bytes) :
    readLE k s = if k ≤ s.length then .ok (leNat (s.take k), s.drop k) else .err := by
  rw [readLE, readN_eq]
  by_cases h : k ≤ s.length
  · rw [if_pos h, if_pos h]
  · rw [if_neg h, if_neg h]

theorem readLE_append (k n : Nat) (rest : Bytes) (h : n < 256 ^ k) :
    readLE k (leBytes k n ++ rest) = .ok (n, rest) := by
  unfold readLE
  rw [readN_append' k (leBytes k n) rest (leBytes_length k n)]
  simp [leNat_leBytes k n h]

theorem readLE_ok {k : Nat} {s rest : Bytes} {n : Nat} (h : readLE k s = .ok (n, rest)) :
    s = leBytes k n ++ rest ∧ n < 256 ^ k := by
  unfold readLE at h
  split at h
  · rename_i bs r hr
    cases h
    obtain ⟨rfl, rfl⟩ := readN_ok hr
    exact ⟨by rw [leBytes_leNat], leNat_lt bs⟩
  · cases h
  · cases h

theorem readLE_ne_panic (k : Nat) (s : Bytes) : readLE k s ≠ .panic := by
  unfold readLE
  have := readN_ne_panic k s
  split <;> simp_all

end Parser

/-! ### Go's `int` in the guards -/

/-- the length tests `len(x) == k` / `len(x) != k` of the Go code compare `int`s -/
theorem lenTest (l k : Nat) : decide ((l : Int) = (k : Int)) = decide (l = k) :=
  decide_eq_decide.mpr Int.natCast_inj

theorem lenGuard (l k : Nat) : decide ((l : Int) ≠ (k : Int)) = decide (l ≠ k) :=
  decide_eq_decide.mpr (not_congr Int.natCast_inj)

/-- converting an unsigned value below `2^63` to the 64-bit `int` changes nothing -/
theorem Gen.wrapS_nat (m : Nat) (h : m ≤ 9223372036854775807) : Gen.wrapS 18446744073709551616 (m : Int) = m :=
  Gen.wrapS_of_small _ _ (by omega) (by omega)

end BtcVerif
