/-
C18 — soundness of the ownership checker.  If every function of a program is consistent with its tags
and summary (`bodyOk`), then for every execution (every trace, every heap, every argument layout):

* **frame**: an array that existed at the call changes only if it is addressed by a parameter listed in
  the function's `touches` summary;
* **windows**: every slice the function ever holds (and every slice it returns) lies in memory allocated
  during the call, or — for a parameter that is not in `touches` — inside the *visible window* of one of
  that parameter's slices: the function never addresses spare capacity or neighbouring bytes of such an
  argument.
-/
import BtcVerif.Proofs.SliceHeap

namespace BtcVerif.Proofs.SliceHeap
open BtcVerif.Model.SliceHeap

/-- array `a` is addressed (anywhere: visible window or spare capacity) by argument register `j` -/
def Addresses (args : Env) (j a : Nat) : Prop := ∃ s ∈ args j, s.arr = a

/-- what a slice tagged with parameter `j` may be: anywhere in the arrays of `j` if the function's
summary says it touches `j`; otherwise inside the visible window of one of `j`'s slices -/
def W (f : FuncIR) (args : Env) (j : Nat) (s : Slice) : Prop :=
  (j ∈ f.touches ∧ ∃ t ∈ args j, s.arr = t.arr) ∨ (∃ t ∈ args j, Within s t)

theorem W.addr {f args j s} (h : W f args j s) : Addresses args j s.arr := by
  rcases h with ⟨_, t, ht, he⟩ | ⟨t, ht, hw⟩
  · exact ⟨t, ht, he.symm⟩
  · exact ⟨t, ht, hw.1.symm⟩

theorem W.sub {f args j s t} (h : W f args j t) (hw : Within s t) : W f args j s := by
  rcases h with ⟨hj, u, hu, he⟩ | ⟨u, hu, hwu⟩
  · exact Or.inl ⟨hj, u, hu, hw.1.trans he⟩
  · exact Or.inr ⟨u, hu, hw.trans hwu⟩

theorem W.touched {f args j s t} (h : W f args j t) (hj : j ∈ f.touches) (he : s.arr = t.arr) :
    W f args j s := by
  obtain ⟨u, hu, hue⟩ := h.addr
  exact Or.inl ⟨hj, u, hu, he.trans hue.symm⟩

/-- `s` lives in memory allocated after the call (`n0 ≤ arr`) or is a permitted view of a parameter in `T` -/
def Own (f : FuncIR) (args : Env) (n0 : Nat) (T : List Nat) (s : Slice) : Prop :=
  n0 ≤ s.arr ∨ ∃ j ∈ T, W f args j s

def EnvOk (f : FuncIR) (args : Env) (n0 : Nat) (env : Env) : Prop :=
  ∀ r s, s ∈ env r → Own f args n0 (tagOf f r) s

def CapOk (f : FuncIR) (env : Env) : Prop :=
  ∀ r, f.cappedRegs.contains r = true → ∀ s, s ∈ env r → s.cap = s.len

theorem Own.mono {f args n0 T T'} {s : Slice} (h : Own f args n0 T s) (hsub : ∀ x ∈ T, x ∈ T') :
    Own f args n0 T' s := by
  rcases h with h | ⟨j, hj, hp⟩
  · exact Or.inl h
  · exact Or.inr ⟨j, hsub j hj, hp⟩

theorem Own.sub {f args n0 T} {s t : Slice} (h : Own f args n0 T t) (hw : Within s t) : Own f args n0 T s := by
  rcases h with h | ⟨j, hj, hp⟩
  · exact Or.inl (by rw [hw.1]; exact h)
  · exact Or.inr ⟨j, hj, hp.sub hw⟩

theorem Own.touched {f args n0 T} {s t : Slice} (h : Own f args n0 T t) (hsub : subset T f.touches = true)
    (he : s.arr = t.arr) : Own f args n0 T s := by
  rcases h with h | ⟨j, hj, hp⟩
  · exact Or.inl (by rw [he]; exact h)
  · exact Or.inr ⟨j, hj, hp.touched (subset_mem hsub j hj) he⟩

theorem envOk_upd {f args n0 env} (henv : EnvOk f args n0 env) (x : Nat) (v : Val)
    (hv : ∀ s ∈ v, Own f args n0 (tagOf f x) s) : EnvOk f args n0 (upd env x v) := by
  intro r s hs
  unfold upd at hs
  split at hs
  · rename_i h; subst h; exact hv s hs
  · exact henv r s hs

theorem capOk_upd {f env} (hcap : CapOk f env) (x : Nat) (v : Val)
    (hx : f.cappedRegs.contains x = false ∨ ∀ s ∈ v, s.cap = s.len) : CapOk f (upd env x v) := by
  intro r hr s hs
  unfold upd at hs
  split at hs
  · rename_i h; subst h
    exact hx.elim (fun hx => by rw [hx] at hr; cases hr) fun hv => hv s hs
  · exact hcap r hr s hs

theorem EnvOk.flatMap {f args n0 env} (henv : EnvOk f args n0 env) {xs T : List Nat}
    (hsub : ∀ x ∈ xs, subset (tagOf f x) T = true) : ∀ s ∈ xs.flatMap env, Own f args n0 T s := by
  intro s hs
  obtain ⟨x, hx, hsx⟩ := List.mem_flatMap.mp hs
  exact (henv x s hsx).mono (subset_mem (hsub x hx))

theorem not_touched {f : FuncIR} {args : Env} {n0 : Nat} {T : List Nat} {t : Slice}
    (hown : Own f args n0 T t) (hsub : subset T f.touches = true) (a : Nat) (ha : a < n0)
    (hnt : ∀ j ∈ f.touches, ¬ Addresses args j a) : a ≠ t.arr := by
  intro heq
  rcases hown with h | ⟨j, hj, hp⟩
  · omega
  · exact hnt j (subset_mem hsub j hj) (heq ▸ hp.addr)

/-- what one executed statement establishes, from heap `h` to the pair `r`; `RunOk` is the same for a whole trace, with
what is returned -/
structure StepOk (f : FuncIR) (args : Env) (n0 : Nat) (h : Heap) (r : Heap × Env) : Prop where
  len : h.length ≤ r.1.length
  frame : ∀ a, a < n0 → (∀ j ∈ f.touches, ¬ Addresses args j a) → r.1[a]? = h[a]?
  env : EnvOk f args n0 r.2
  cap : CapOk f r.2

section
variable {f : FuncIR} {args : Env} {n0 : Nat} {h : Heap} {env : Env} (henv : EnvOk f args n0 env) (hcap : CapOk f env)
include henv hcap

theorem StepOk.refl : StepOk f args n0 h (h, env) := ⟨Nat.le_refl _, fun _ _ _ => rfl, henv, hcap⟩

theorem StepOk.assign {x : Nat} {v : Val} (hv : ∀ s ∈ v, Own f args n0 (tagOf f x) s)
    (hc : f.cappedRegs.contains x = false ∨ ∀ s ∈ v, s.cap = s.len) : StepOk f args n0 h (h, upd env x v) :=
  ⟨Nat.le_refl _, fun _ _ _ => rfl, envOk_upd henv x v hv, capOk_upd hcap x v hc⟩

theorem StepOk.write {h' : Heap} {T : List Nat} {t : Slice} (hw : OnlyWrites h h' t.arr)
    (hown : Own f args n0 T t) (hsub : subset T f.touches = true) : StepOk f args n0 h (h', env) :=
  ⟨Nat.le_of_eq hw.1.symm, fun a ha hnt => hw.2 a (not_touched hown hsub a ha hnt), henv, hcap⟩

end

theorem stepSimple_ok (prog : List FuncIR) (args : Env) (n0 : Nat) (f : FuncIR) (st : Stmt)
    (ns : List Nat) (bs : List UInt8) (h : Heap) (env : Env)
    (hok : stmtOk prog f st = true) (hn0 : n0 ≤ h.length) (henv : EnvOk f args n0 env) (hcap : CapOk f env) :
    StepOk f args n0 h (stepSimple st ns bs h env) := by
  cases st with
  | alloc x =>
    simp only [stmtOk, Bool.not_eq_true'] at hok
    refine ⟨by simp [stepSimple], fun a ha _ => List.getElem?_append_left (by omega), ?_, capOk_upd hcap _ _ (.inl hok)⟩
    apply envOk_upd henv
    intro s hs
    obtain rfl := List.mem_singleton.mp hs
    exact Or.inl hn0
  | derive x ys =>
    simp only [stmtOk, Bool.and_eq_true, Bool.not_eq_true', List.all_eq_true] at hok
    refine .assign henv hcap (fun s hs => ?_) (.inl hok.1)
    obtain ⟨t, ht, lo, hi, hmk⟩ := mem_picks hs
    exact (henv.flatMap hok.2 t ht).sub (subWindow_within hmk)
  | capped x y =>
    simp only [stmtOk] at hok
    refine .assign henv hcap (fun s hs => ?_) (.inr fun s hs => ?_)
    · obtain ⟨t, ht, lo, hi, hmk⟩ := mem_picks hs
      exact ((henv y t ht).sub (subCapped_within hmk).1).mono (subset_mem hok)
    · obtain ⟨t, _, lo, hi, hmk⟩ := mem_picks hs
      exact (subCapped_within hmk).2
  | beyond x y =>
    simp only [stmtOk, Bool.and_eq_true, Bool.not_eq_true'] at hok
    refine .assign henv hcap (fun s hs => ?_) (.inl hok.1.1)
    obtain ⟨t, ht, lo, hi, hmk⟩ := mem_picks hs
    exact ((henv y t ht).touched hok.2 (subBeyond_arr hmk)).mono (subset_mem hok.1.2)
  | append x y =>
    simp only [stmtOk, Bool.and_eq_true, Bool.not_eq_true', Bool.or_eq_true] at hok
    obtain ⟨⟨hxc, hsub⟩, hwr⟩ := hok
    simp only [stepSimple]
    split
    · exact .refl henv hcap
    · rename_i t ht
      have htmem : t ∈ env y := List.mem_of_getElem? ht
      have hown := henv y t htmem
      refine ⟨goAppend_length h t bs, ?_, envOk_upd henv _ _ fun s hs => ?_, capOk_upd hcap _ _ (.inl hxc)⟩
      · intro a ha hnt
        rcases hwr with hc | htouch
        · exact goAppend_capped h t bs (hcap y hc t htmem) a (by omega)
        · exact goAppend_other h t bs a (by omega) (not_touched hown htouch a ha hnt)
      · obtain rfl := List.mem_singleton.mp hs
        -- the result is a slice of the same array (the very same slice if `cap = len`) or of a new one
        rcases hwr with hc | htouch
        · rcases goAppend_capped_res h t bs (hcap y hc t htmem) with he | hge
          · rw [he]; exact hown.mono (subset_mem hsub)
          · exact Or.inl (by omega)
        · rcases goAppend_arr h t bs with he | hge
          · exact (hown.touched htouch he).mono (subset_mem hsub)
          · exact Or.inl (by omega)
  | store x =>
    simp only [stmtOk] at hok
    simp only [stepSimple]
    split
    · exact .refl henv hcap
    · rename_i t ht
      exact .write henv hcap (onlyWrites_goStore ..) (henv x t (List.mem_of_getElem? ht)) hok
  | copyInto x =>
    simp only [stmtOk] at hok
    simp only [stepSimple]
    split
    · exact .refl henv hcap
    · rename_i t ht
      exact .write henv hcap (onlyWrites_goCopy ..) (henv x t (List.mem_of_getElem? ht)) hok
  | havoc xs =>
    simp only [stmtOk, List.all_eq_true] at hok
    simp only [stepSimple]
    split
    · exact .refl henv hcap
    · rename_i t ht
      obtain ⟨x, hx, htx⟩ := List.mem_flatMap.mp (List.mem_of_getElem? ht)
      split
      · exact .write henv hcap (onlyWrites_writeAt ..) (henv x t htx) (hok x hx)
      · exact .refl henv hcap
  | call xd xc g args => exact .refl henv hcap
  | ret ds cs => exact .refl henv hcap

structure RunOk (f : FuncIR) (args : Env) (n0 : Nat) (h : Heap) (r : Heap × Val × Val × Env) : Prop where
  len : h.length ≤ r.1.length
  frame : ∀ a, a < n0 → (∀ j ∈ f.touches, ¬ Addresses args j a) → r.1[a]? = h[a]?
  retD : ∀ s ∈ r.2.1, Own f args n0 f.retD s
  retC : ∀ s ∈ r.2.2.1, Own f args n0 f.retC s
  env : EnvOk f args n0 r.2.2.2

theorem StepOk.then_run {f args n0 h} {r1 : Heap × Env} {r : Heap × Val × Val × Env}
    (hs : StepOk f args n0 h r1) (hr : RunOk f args n0 r1.1 r) : RunOk f args n0 h r :=
  ⟨Nat.le_trans hs.len hr.len, fun a ha hnt => (hr.frame a ha hnt).trans (hs.frame a ha hnt), hr.retD, hr.retC, hr.env⟩

theorem bodyOk_stmt {prog : List FuncIR} {f : FuncIR} (hb : bodyOk prog f = true) {idx : Nat} {st : Stmt}
    (hst : f.body[idx]? = some st) : stmtOk prog f st = true := by
  unfold bodyOk at hb
  simp only [Bool.and_eq_true, List.all_eq_true] at hb
  exact hb.2 st (List.mem_of_getElem? hst)

theorem bodyOk_params {prog : List FuncIR} {f : FuncIR} (hb : bodyOk prog f = true) {r : Nat}
    (hr : f.tracked.contains r = true) : r ∈ tagOf f r ∧ f.cappedRegs.contains r = false := by
  unfold bodyOk paramsOk at hb
  simp only [Bool.and_eq_true, List.all_eq_true, Bool.not_eq_true'] at hb
  have hmem : r ∈ f.tracked := by simpa using hr
  have := hb.1 r hmem
  exact ⟨by simpa using this.1, this.2⟩

theorem argEnv_mem {tracked : List Nat} {env : Env} {args : List Nat} {j : Nat} {s : Slice}
    (h : s ∈ argEnv tracked env args j) :
    tracked.contains j = true ∧ ∃ a, args[j]? = some a ∧ s ∈ env a := by
  unfold argEnv at h
  split at h
  · rename_i ht
    split at h
    · rename_i a ha; exact ⟨ht, a, ha, h⟩
    · cases h
  · cases h

theorem envOk_init {prog : List FuncIR} {f : FuncIR} (hb : bodyOk prog f = true) (args : Env) (n0 : Nat)
    (hargs : ∀ r s, s ∈ args r → f.tracked.contains r = true) : EnvOk f args n0 args := by
  intro r s hs
  exact Or.inr ⟨r, (bodyOk_params hb (hargs r s hs)).1, Or.inr ⟨s, hs, Within.refl s⟩⟩

theorem capOk_init {prog : List FuncIR} {f : FuncIR} (hb : bodyOk prog f = true) (args : Env)
    (hargs : ∀ r s, s ∈ args r → f.tracked.contains r = true) : CapOk f args := by
  intro r hr s hs
  rw [(bodyOk_params hb (hargs r s hs)).2] at hr; cases hr

/-- a permitted view of the callee's parameter `j` is a permitted view of the caller's register `cargs[j]`:
what the callee may hold of its parameters in `T`, the caller may hold under any tag `T'` that contains
the tags of the corresponding argument registers -/
theorem Own.of_callee {f gf : FuncIR} {args env : Env} {n0 : Nat} {h : Heap} {cargs : List Nat}
    (hn0 : n0 ≤ h.length) (henv : EnvOk f args n0 env)
    (htouch : ∀ j ∈ gf.touches, (match cargs[j]? with
      | some a => subset (tagOf f a) f.touches | none => true) = true)
    {T T' : List Nat} (hT : ∀ j ∈ T, (match cargs[j]? with
      | some a => subset (tagOf f a) T' | none => true) = true)
    {s : Slice} (hown : Own gf (argEnv gf.tracked env cargs) h.length T s) : Own f args n0 T' s := by
  rcases hown with hge | ⟨j, hj, hw⟩
  · exact Or.inl (by omega)
  · have hTj := hT j hj
    rcases hw with ⟨hjt, t', ht', he⟩ | ⟨t', ht', hwin⟩
    · obtain ⟨_, ar, har, htar⟩ := argEnv_mem ht'
      have hto := htouch j hjt
      rw [har] at hTj hto
      exact ((henv ar t' htar).touched hto he).mono (subset_mem hTj)
    · obtain ⟨_, ar, har, htar⟩ := argEnv_mem ht'
      rw [har] at hTj
      exact ((henv ar t' htar).sub hwin).mono (subset_mem hTj)

/-- a call, seen from the caller.  The callee has run with everything that existed at the call as its caller memory
(`n0 := h.length`) and `argEnv …` as its arguments; `Own.of_callee` translates what it returns back.  The third conjunct of
`stmtOk (.call …)` (only untagged memory goes to parameters the callee does not track) is not used: it justifies
`argEnv` dropping those arguments against Go, not against this semantics. -/
theorem call_ok {prog : List FuncIR} {f gf : FuncIR} {args env : Env} {n0 xd xc g : Nat} {cargs : List Nat} {h : Heap}
    {r : Heap × Val × Val × Env} (hok : stmtOk prog f (.call xd xc g cargs) = true) (hg : prog[g]? = some gf)
    (hn0 : n0 ≤ h.length) (henv : EnvOk f args n0 env) (hcap : CapOk f env)
    (hr : RunOk gf (argEnv gf.tracked env cargs) h.length h r) :
    StepOk f args n0 h (r.1, upd (upd env xd r.2.1) xc r.2.2.1) := by
  simp only [stmtOk, hg, Bool.and_eq_true, Bool.not_eq_true', List.all_eq_true] at hok
  obtain ⟨⟨⟨⟨⟨hxdc, hxcc⟩, _⟩, htouch⟩, hretD⟩, hretC⟩ := hok
  refine ⟨hr.len, fun a ha hnt => hr.frame a (by omega) ?_,
    envOk_upd (envOk_upd henv _ _ fun s hs => (hr.retD s hs).of_callee hn0 henv htouch hretD)
      _ _ fun s hs => (hr.retC s hs).of_callee hn0 henv htouch hretC,
    capOk_upd (capOk_upd hcap _ _ (.inl hxdc)) _ _ (.inl hxcc)⟩
  -- an array the caller's touched parameters do not address is not addressed by the callee's either
  intro j hj ⟨t', ht', hta⟩
  obtain ⟨_, ar, har, htar⟩ := argEnv_mem ht'
  have hsub := htouch j hj
  rw [har] at hsub
  exact not_touched (henv ar t' htar) hsub a ha hnt hta.symm

/-- `env`, `args` and `n0` are independent of each other and of `h` so that the induction on the trace goes through:
after a statement the registers are not the arguments any more and the heap has grown.  `runFn_ok` is the instance
at the call. -/
theorem run_ok (prog : List FuncIR) (hprog : ∀ g ∈ prog, bodyOk prog g = true) :
    ∀ (t : Trace) (f : FuncIR) (h : Heap) (env : Env) (args : Env) (n0 : Nat),
      f ∈ prog → n0 ≤ h.length → EnvOk f args n0 env → CapOk f env →
      RunOk f args n0 h (run prog t f h env) := by
  intro t
  induction t with
  | done =>
    intro f h env args n0 _ _ henv _
    exact ⟨Nat.le_refl _, fun _ _ _ => rfl, (fun _ hs => by cases hs), (fun _ hs => by cases hs), henv⟩
  | ev idx ns bs sub rest ihsub ihrest =>
    intro f h env args n0 hf hn0 henv hcap
    have hb := hprog f hf
    simp only [run]
    split
    · -- no such statement
      exact ihrest f h env args n0 hf hn0 henv hcap
    · -- ret
      rename_i ds cs hst
      have hok := bodyOk_stmt hb hst
      simp only [stmtOk, Bool.and_eq_true, List.all_eq_true] at hok
      exact ⟨Nat.le_refl _, fun _ _ _ => rfl, henv.flatMap hok.1, henv.flatMap hok.2, henv⟩
    · -- call
      rename_i xd xc g cargs hst
      split
      · exact ihrest f h env args n0 hf hn0 henv hcap
      · rename_i gf hg
        have hgf : gf ∈ prog := List.mem_of_getElem? hg
        have hinit : ∀ r s, s ∈ argEnv gf.tracked env cargs r → gf.tracked.contains r = true :=
          fun r s hs => (argEnv_mem hs).1
        have hs := call_ok (bodyOk_stmt hb hst) hg hn0 henv hcap
          (ihsub gf h (argEnv gf.tracked env cargs) (argEnv gf.tracked env cargs) h.length hgf (Nat.le_refl _)
            (envOk_init (hprog gf hgf) _ _ hinit) (capOk_init (hprog gf hgf) _ hinit))
        exact hs.then_run (ihrest f _ _ args n0 hf (Nat.le_trans hn0 hs.len) hs.env hs.cap)
    · -- a simple statement
      rename_i st _ _ hst
      have hs := stepSimple_ok prog args n0 f st ns bs h env (bodyOk_stmt hb hst) hn0 henv hcap
      exact hs.then_run (ihrest f _ _ args n0 hf (Nat.le_trans hn0 hs.len) hs.env hs.cap)

/-- the argument memory a call of `f` sees: untracked parameters are projected away -/
def visibleArgs (f : FuncIR) (args : Env) : Env := fun r => if f.tracked.contains r then args r else []

theorem mem_visibleArgs {f : FuncIR} {args : Env} {r : Nat} {s : Slice} :
    s ∈ visibleArgs f args r ↔ f.tracked.contains r = true ∧ s ∈ args r := by
  unfold visibleArgs
  split
  · rename_i h; exact ⟨fun hs => ⟨h, hs⟩, fun hs => hs.2⟩
  · rename_i h; exact ⟨fun hs => (nomatch hs), fun hs => absurd hs.1 h⟩

theorem runFn_ok (prog : List FuncIR) (hprog : prog.all (bodyOk prog) = true) (f : FuncIR) (hf : f ∈ prog)
    (t : Trace) (h : Heap) (args : Env) :
    RunOk f (visibleArgs f args) h.length h (runFn prog f t h args) := by
  have hp := List.all_eq_true.mp hprog
  have hinit : ∀ r s, s ∈ visibleArgs f args r → f.tracked.contains r = true :=
    fun r s hs => (mem_visibleArgs.mp hs).1
  exact run_ok prog hp t f h (visibleArgs f args) (visibleArgs f args) h.length hf (Nat.le_refl _)
    (envOk_init (hp f hf) _ _ hinit) (capOk_init (hp f hf) _ hinit)

theorem addresses_visible {f : FuncIR} {args : Env} {j a : Nat} (h : Addresses (visibleArgs f args) j a) :
    Addresses args j a := by
  obtain ⟨s, hs, he⟩ := h
  exact ⟨s, (mem_visibleArgs.mp hs).2, he⟩

/-- **Soundness of the checker (frame).**  In a consistent program, a call of `f` — with any trace
(every order and repetition of its statements and of its callees' statements, every dynamic value),
from any heap, with its arguments anywhere in that heap (any offsets, lengths, capacities, overlaps) —
leaves every array that existed at the call unchanged, *whole array*: visible windows, spare capacity
and everything around them, unless the array is addressed by a parameter in `f.touches`. -/
theorem runFn_frame (prog : List FuncIR) (hprog : prog.all (bodyOk prog) = true) (f : FuncIR) (hf : f ∈ prog)
    (t : Trace) (h : Heap) (args : Env) (a : Nat) (ha : a < h.length)
    (hnt : ∀ j ∈ f.touches, ¬ Addresses args j a) :
    (runFn prog f t h args).1[a]? = h[a]? :=
  (runFn_ok prog hprog f hf t h args).frame a ha (fun j hj hv => hnt j hj (addresses_visible hv))

/-- an exported function that passes `check` touches none of its caller-owned byte-slice parameters -/
theorem check_guarded (prog : List FuncIR) (f : FuncIR) (hc : check prog f = true) (hapi : f.api = true) :
    ∀ j ∈ f.guarded, j ∉ f.touches := by
  unfold check at hc
  simp only [Bool.and_eq_true, Bool.or_eq_true, Bool.not_eq_true', List.all_eq_true] at hc
  intro j hj hjt
  rcases hc.2 with h | h
  · rw [hapi] at h; cases h
  · exact absurd hjt (by simpa using h j hj)

def InWindows (args : Env) (n0 : Nat) (T : List Nat) (s : Slice) : Prop :=
  n0 ≤ s.arr ∨ ∃ j ∈ T, ∃ t ∈ args j, Within s t

/-- `touches = []` is more than `check` asks of an exported function (no *guarded* parameter in `touches`); outside the
allow-list every function of the library has it (`lib_touches_nothing`) -/
theorem own_inWindows {f : FuncIR} {args : Env} {n0 : Nat} {T : List Nat} {s : Slice}
    (hto : f.touches = []) (h : Own f (visibleArgs f args) n0 T s) : InWindows args n0 T s := by
  rcases h with h | ⟨j, hj, hw⟩
  · exact Or.inl h
  · rcases hw with ⟨hjt, _⟩ | ⟨t, ht, hwin⟩
    · rw [hto] at hjt; cases hjt
    · exact Or.inr ⟨j, hj, t, (mem_visibleArgs.mp ht).2, hwin⟩

end BtcVerif.Proofs.SliceHeap
