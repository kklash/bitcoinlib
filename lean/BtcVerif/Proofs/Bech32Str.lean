/-
  Bech32 at the level of strings: the alphabet, case folding, `LastIndex`, and the character loop
  of `Validate`.
-/
import BtcVerif.Model.Bech32
import BtcVerif.Spec.Bech32
import BtcVerif.Proofs.Base58

namespace BtcVerif.Proofs.Bech32
open BtcVerif BtcVerif.Model BtcVerif.Model.Bech32 BtcVerif.Gen BtcVerif.Gen.Guards

def achar (v : Nat) : UInt8 :=
  match alphabet[v]? with
  | some c => c
  | none => 0

theorem alphabet_length : alphabet.length = 32 := by decide

/-- the table of the 32 alphabet characters, checked once by evaluation; used through the lemmas below -/
theorem achar_facts : ∀ v, v < 32 →
    alphabet[v]? = some (achar v) ∧ alphaIndex (achar v) = v ∧ achar v ≠ sepChar ∧
    33 ≤ (achar v).toNat ∧ (achar v).toNat ≤ 126 ∧ lowerByte (achar v) = achar v ∧
    alphabet.contains (achar v) = true := by decide

theorem achar_get {v : Nat} (h : v < 32) : alphabet[v]? = some (achar v) := (achar_facts v h).1

theorem alphaIndex_achar {v : Nat} (h : v < 32) : alphaIndex (achar v) = v := (achar_facts v h).2.1

theorem achar_ne_sep {v : Nat} (h : v < 32) : achar v ≠ sepChar := (achar_facts v h).2.2.1

theorem achar_range {v : Nat} (h : v < 32) : 33 ≤ (achar v).toNat ∧ (achar v).toNat ≤ 126 :=
  ⟨(achar_facts v h).2.2.2.1, (achar_facts v h).2.2.2.2.1⟩

theorem lowerByte_achar {v : Nat} (h : v < 32) : lowerByte (achar v) = achar v := (achar_facts v h).2.2.2.2.2.1

theorem contains_achar {v : Nat} (h : v < 32) : alphabet.contains (achar v) = true := (achar_facts v h).2.2.2.2.2.2

theorem contains_iff_index (c : UInt8) :
    alphabet.contains c = true ↔ ∃ i, Base58.indexOf alphabet c = some i := by
  rw [← Base58.indexOf_isSome, Option.isSome_iff_exists]

theorem achar_alphaIndex (c : UInt8) (h : alphabet.contains c = true) :
    achar (alphaIndex c) = c ∧ alphaIndex c < 32 := by
  obtain ⟨i, hi⟩ := (contains_iff_index c).mp h
  obtain ⟨hlt, hget⟩ := Base58.indexOf_spec alphabet c i hi
  rw [alphabet_length] at hlt
  have : alphaIndex c = i := by simp [alphaIndex, hi]
  rw [this]
  exact ⟨by simp [achar, hget], hlt⟩

theorem alphaIndex_lt (c : UInt8) : alphaIndex c < 32 := by
  unfold alphaIndex
  cases hi : Base58.indexOf alphabet c with
  | none => simp
  | some i =>
    have := (Base58.indexOf_spec alphabet c i hi).1
    rw [alphabet_length] at this
    simpa using this

theorem lowerByte_toNat (c : UInt8) :
    (lowerByte c).toNat = if 65 ≤ c.toNat ∧ c.toNat ≤ 90 then c.toNat + 32 else c.toNat := by
  unfold lowerByte
  split
  · rw [UInt8.toNat_add]; show (c.toNat + 32) % 256 = _; omega
  · rfl

theorem lowerByte_idem (c : UInt8) : lowerByte (lowerByte c) = lowerByte c := by
  have h := lowerByte_toNat c
  have h' := lowerByte_toNat (lowerByte c)
  rw [← UInt8.toNat_inj]
  split at h <;> split at h' <;> omega

theorem lower_idem (s : Bytes) : lower (lower s) = lower s := by
  simp only [lower, List.map_map, Function.comp_def, lowerByte_idem]

theorem lowerByte_eq_sep (c : UInt8) : lowerByte c = sepChar ↔ c = sepChar := by
  rw [← UInt8.toNat_inj, ← UInt8.toNat_inj, lowerByte_toNat, show sepChar.toNat = 49 from rfl]
  split <;> omega

theorem lowerByte_range (c : UInt8) :
    (33 ≤ (lowerByte c).toNat ∧ (lowerByte c).toNat ≤ 126) ↔ (33 ≤ c.toNat ∧ c.toNat ≤ 126) := by
  rw [lowerByte_toNat]
  split <;> omega

theorem lowerByte_eq_spec (c : UInt8) : lowerByte c = Spec.Bech32.lowerChar c := by
  simp only [lowerByte, Spec.Bech32.lowerChar, UInt8.le_iff_toNat_le]
  rfl

theorem upperByte_eq_spec (c : UInt8) : upperByte c = Spec.Bech32.upperChar c := by
  simp only [upperByte, Spec.Bech32.upperChar, UInt8.le_iff_toNat_le]
  rfl

theorem lower_eq_spec (s : Bytes) : s.map Spec.Bech32.lowerChar = lower s := by
  unfold lower
  apply List.map_congr_left
  intro c _; exact (lowerByte_eq_spec c).symm

theorem upper_eq_spec (s : Bytes) : s.map Spec.Bech32.upperChar = upper s := by
  unfold upper
  apply List.map_congr_left
  intro c _; exact (upperByte_eq_spec c).symm

theorem lower_length (s : Bytes) : (lower s).length = s.length := by simp [lower]

theorem lastIndexAux_eq (c : UInt8) (s : Bytes) : ∀ (i found : Int),
    lastIndexAux c s i found =
      match Spec.Bech32.rfind c s with
      | some j => i + (j : Int)
      | none => found := by
  induction s with
  | nil => intro i found; simp [lastIndexAux, Spec.Bech32.rfind]
  | cons x xs ih =>
    intro i found
    simp only [lastIndexAux, Spec.Bech32.rfind]
    rw [ih]
    cases hr : Spec.Bech32.rfind c xs with
    | some j => simp; omega
    | none =>
      simp only
      by_cases hx : x = c
      · simp [hx]
      · simp [hx]

theorem lastIndex_eq (c : UInt8) (s : Bytes) :
    lastIndex c s = match Spec.Bech32.rfind c s with
      | some j => (j : Int)
      | none => -1 := by
  unfold lastIndex
  rw [lastIndexAux_eq]
  cases Spec.Bech32.rfind c s <;> simp

theorem rfind_none_iff (c : UInt8) (s : Bytes) : Spec.Bech32.rfind c s = none ↔ c ∉ s := by
  induction s with
  | nil => simp [Spec.Bech32.rfind]
  | cons x xs ih =>
    simp only [Spec.Bech32.rfind]
    cases hr : Spec.Bech32.rfind c xs with
    | some j =>
      have : ¬ c ∉ xs := fun h => by rw [ih.mpr h] at hr; cases hr
      simp only [reduceCtorEq, List.mem_cons, not_or, false_iff, not_and]
      intro _; exact this
    | none =>
      have hn := ih.mp hr
      by_cases hx : x = c
      · simp [hx]
      · have : ¬ c = x := fun h => hx h.symm
        simp [hx, hn, this]

theorem rfind_some (c : UInt8) (s : Bytes) (j : Nat) (h : Spec.Bech32.rfind c s = some j) :
    j < s.length ∧ s = s.take j ++ c :: s.drop (j + 1) ∧ c ∉ s.drop (j + 1) := by
  induction s generalizing j with
  | nil => simp [Spec.Bech32.rfind] at h
  | cons x xs ih =>
    simp only [Spec.Bech32.rfind] at h
    cases hr : Spec.Bech32.rfind c xs with
    | some k =>
      rw [hr] at h
      simp only [Option.some.injEq] at h
      subst h
      obtain ⟨h1, h2, h3⟩ := ih k hr
      refine ⟨by simp; omega, ?_, by simpa using h3⟩
      simp only [List.take_succ_cons, List.drop_succ_cons, List.cons_append]
      rw [← h2]
    | none =>
      rw [hr] at h
      simp only at h
      split at h
      · rename_i hx
        injection h with h
        subst h
        subst hx
        refine ⟨by simp, by simp, ?_⟩
        simpa using (rfind_none_iff _ xs).mp hr
      · cases h

theorem rfind_append (c : UInt8) (pre post : Bytes) (h : c ∉ post) :
    Spec.Bech32.rfind c (pre ++ c :: post) = some pre.length := by
  induction pre with
  | nil =>
    simp only [List.nil_append, Spec.Bech32.rfind, (rfind_none_iff c post).mpr h, if_true, List.length_nil]
  | cons x xs ih =>
    simp only [List.cons_append, Spec.Bech32.rfind, ih, List.length_cons]

theorem rfind_lower (s : Bytes) : Spec.Bech32.rfind sepChar (lower s) = Spec.Bech32.rfind sepChar s := by
  induction s with
  | nil => rfl
  | cons x xs ih =>
    simp only [lower, List.map_cons, Spec.Bech32.rfind] at ih ⊢
    rw [ih]
    cases Spec.Bech32.rfind sepChar xs with
    | some j => rfl
    | none =>
      simp only
      by_cases hx : x = sepChar
      · subst hx
        have : lowerByte sepChar = sepChar := by decide
        simp [this]
      · have : ¬ lowerByte x = sepChar := fun h => hx ((lowerByte_eq_sep x).mp h)
        simp [hx, this]

theorem validChars_eq (pos : Nat) (s : Bytes) : ∀ i : Nat, validChars (pos : Int) s (i : Int) =
    (s.all (fun c => decide (33 ≤ c.toNat ∧ c.toNat ≤ 126)) &&
      (s.drop (pos + 1 - i)).all fun c => alphabet.contains (lowerByte c)) := by
  induction s with
  | nil => intro i; simp [validChars]
  | cons c cs ih =>
    intro i
    have hr : bech32_Validate_2 (c := c.toNat) = !decide (33 ≤ c.toNat ∧ c.toNat ≤ 126) := by
      simp only [bech32_Validate_2, ← Bool.decide_or, ← decide_not, decide_eq_decide]; omega
    rw [validChars, show ((i : Int) + 1) = ((i + 1 : Nat) : Int) from rfl, ih (i + 1), hr, List.all_cons,
      bech32_Validate_3]
    by_cases hi : i ≤ pos
    · have hgt : ¬ ((i : Int) > (pos : Int)) := by omega
      rw [show pos + 1 - i = (pos + 1 - (i + 1)) + 1 by omega, List.drop_succ_cons, decide_eq_false hgt]
      cases decide (33 ≤ c.toNat ∧ c.toNat ≤ 126) <;> simp
    · have hgt : (i : Int) > (pos : Int) := by omega
      rw [show pos + 1 - i = 0 by omega, show pos + 1 - (i + 1) = 0 by omega, List.drop_zero, List.drop_zero,
        List.all_cons, decide_eq_true hgt]
      cases decide (33 ≤ c.toNat ∧ c.toNat ≤ 126) <;> cases alphabet.contains (lowerByte c) <;> simp

end BtcVerif.Proofs.Bech32
