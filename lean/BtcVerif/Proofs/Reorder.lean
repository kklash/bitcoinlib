/-
  The invariant of `Model/Reorder.lean` (`Inv`, `run_inv`): whatever the node serves (siblings, repeats, blocks of
  other chains), what has been handed out is a hash chain from the first block and is counted by `cur`; from it
  `Props/C16.lean` concludes that the goroutine only ends without an error after at least `toHeight - fromHeight` blocks.
-/
import BtcVerif.Model.Reorder

namespace BtcVerif.Model.Reorder
open BtcVerif.Gen.Guards

theorem lookup_prev {k : Nat} {m : List Blk} {b : Blk} (h : lookup k m = some b) : b.prev = k := by
  simpa using List.find?_some h

theorem lookup_mem {k : Nat} {m : List Blk} {b : Blk} (h : lookup k m = some b) : b ∈ m :=
  List.mem_of_find?_eq_some h

theorem mem_insert {x b : Blk} {m : List Blk} : x ∈ insert b m ↔ x = b ∨ (x ∈ m ∧ x.prev ≠ b.prev) := by
  simp [insert]

theorem mem_delete {x : Blk} {k : Nat} {m : List Blk} : x ∈ delete k m ↔ x ∈ m ∧ x.prev ≠ k := by
  simp [delete]

theorem delete_length_lt {k : Nat} {m : List Blk} {b : Blk} (h : lookup k m = some b) :
    (delete k m).length < m.length :=
  Nat.lt_of_le_of_ne (List.length_filter_le _ _) fun he =>
    absurd (List.length_filter_eq_length_iff.mp he b (lookup_mem h)) (by simp [lookup_prev h])

theorem insert_length_le (b : Blk) (m : List Blk) : (insert b m).length ≤ m.length + 1 :=
  Nat.succ_le_succ (List.length_filter_le _ _)

theorem release_some {n : Nat} {s : St} {b : Blk} (h : lookup s.latest s.buf = some b) :
    release (n + 1) s =
      release n { s with latest := b.id, cur := s.cur + 1, buf := delete s.latest s.buf, out := s.out ++ [b] } := by
  simp only [release, h, blockscan_BlockScanner_streamBlocks_lit0_4, if_true]

theorem release_none {n : Nat} {s : St} (h : lookup s.latest s.buf = none) : release (n + 1) s = s := by
  simp only [release, h, ite_self]

/-- the fuel `buf.length + 1` of `iter` is enough: the release loop runs until nothing is stored under the latest hash -/
theorem release_stops : ∀ (fuel : Nat) (s : St), s.buf.length < fuel →
    lookup (release fuel s).latest (release fuel s).buf = none
  | 0, _, hl => absurd hl (Nat.not_lt_zero _)
  | fuel + 1, s, hl => by
    cases hb : lookup s.latest s.buf with
    | none => rw [release_none hb]; exact hb
    | some b =>
      rw [release_some hb]
      exact release_stops fuel _ (Nat.lt_of_lt_of_le (delete_length_lt hb) (Nat.le_of_lt_succ hl))

theorem iter_stopped {t : Nat} {s : St} {e : Ev} (h : s.res ≠ .running) : iter t s e = s := by
  simp only [iter, h, ne_eq, not_false_eq_true, if_true]

theorem iter_full {t : Nat} {s : St} {e : Ev} (hr : s.res = .running) (h : t ≤ s.cur) :
    iter t s e = { s with res := .done } := by
  simp only [iter, hr, ne_eq, not_true_eq_false, if_false, blockscan_BlockScanner_streamBlocks_lit0_1,
    Nat.not_lt.mpr h, decide_false, Bool.not_false, if_true]

theorem iter_blk {t : Nat} {s : St} {b : Blk} (hr : s.res = .running) (h : s.cur < t) :
    iter t s (.blk b) = release ((insert b s.buf).length + 1) { s with buf := insert b s.buf } := by
  simp only [iter, hr, ne_eq, not_true_eq_false, if_false, blockscan_BlockScanner_streamBlocks_lit0_1, h,
    decide_true, Bool.not_true, Bool.false_eq_true, blockscan_BlockScanner_streamBlocks_lit0_2,
    blockscan_BlockScanner_streamBlocks_lit0_5]

theorem iter_closed {t : Nat} {s : St} (hr : s.res = .running) (h : s.cur < t) :
    iter t s .closed = { release (s.buf.length + 1) s with res := .err } := by
  simp only [iter, hr, ne_eq, not_true_eq_false, if_false, blockscan_BlockScanner_streamBlocks_lit0_1, h,
    decide_true, Bool.not_true, Bool.false_eq_true, blockscan_BlockScanner_streamBlocks_lit0_2,
    Bool.not_false, blockscan_BlockScanner_streamBlocks_lit0_5, if_true]

theorem finish_eq (t : Nat) (s : St) :
    finish t s = if s.res = .running ∧ t ≤ s.cur then { s with res := .done } else s := by
  simp only [finish, blockscan_BlockScanner_streamBlocks_lit0_1, Bool.not_eq_true', decide_eq_false_iff_not,
    Nat.not_lt]

theorem foldl_iter_stopped {t : Nat} {s : St} (h : s.res ≠ .running) : ∀ es : List Ev, es.foldl (iter t) s = s
  | [] => rfl
  | e :: es => by rw [List.foldl_cons, iter_stopped h, foldl_iter_stopped h es]

theorem finish_foldl_full {t : Nat} {s : St} (hr : s.res = .running) (h : t ≤ s.cur) :
    ∀ es : List Ev, finish t (es.foldl (iter t) s) = { s with res := .done }
  | [] => by rw [List.foldl_nil, finish_eq, if_pos ⟨hr, h⟩]
  | e :: es => by
    have hd : ({ s with res := .done } : St).res ≠ .running := fun h => nomatch h
    rw [List.foldl_cons, iter_full hr h, foldl_iter_stopped hd, finish_eq, if_neg fun h => hd h.1]

theorem chain_append : ∀ (h : Nat) (bs : List Blk) (b : Blk),
    Chain h (bs ++ [b]) ↔ Chain h bs ∧ b.prev = tip h bs
  | h, [], b => by simp [Chain, tip]
  | h, x :: xs, b => by
    simp only [List.cons_append, Chain, tip, chain_append x.id xs b, and_assoc]

theorem tip_append : ∀ (h : Nat) (bs : List Blk) (b : Blk), tip h (bs ++ [b]) = b.id
  | _, [], _ => rfl
  | _, x :: xs, b => by simp only [List.cons_append, tip, tip_append x.id xs b]

theorem blockCount_cons (e : Ev) (es : List Ev) : blockCount (e :: es) = blockCount [e] + blockCount es := by
  cases e <;> simp [blockCount, List.filter_cons, Nat.add_comm]

/-- `k`: the number of blocks received so far -/
structure Inv (fromHeight toHeight first k : Nat) (s : St) : Prop where
  chain : Chain first s.out
  latest : s.latest = tip first s.out
  cur : s.cur = fromHeight + s.out.length
  bound : s.out.length + s.buf.length ≤ k
  done : s.res = .done → toHeight ≤ s.cur

theorem Inv.mono {f t first k k' : Nat} {s : St} (h : Inv f t first k s) (hk : k ≤ k') : Inv f t first k' s :=
  ⟨h.chain, h.latest, h.cur, Nat.le_trans h.bound hk, h.done⟩

theorem release_inv {f t first k : Nat} : ∀ (fuel : Nat) {s : St}, Inv f t first k s →
    Inv f t first k (release fuel s)
  | 0, _, hi => hi
  | fuel + 1, s, hi => by
    cases hb : lookup s.latest s.buf with
    | none => rw [release_none hb]; exact hi
    | some b =>
      rw [release_some hb]
      refine release_inv fuel ⟨?_, ?_, ?_, ?_, fun h => Nat.le_succ_of_le (hi.done h)⟩
      · exact (chain_append first s.out b).mpr ⟨hi.chain, by rw [lookup_prev hb, hi.latest]⟩
      · exact (tip_append first s.out b).symm
      · simp only [List.length_append, List.length_cons, List.length_nil, hi.cur]; omega
      · have := delete_length_lt hb
        have := hi.bound
        simp only [List.length_append, List.length_cons, List.length_nil]; omega

theorem iter_inv {f t first k : Nat} {s : St} (e : Ev) (hi : Inv f t first k s) :
    Inv f t first (k + blockCount [e]) (iter t s e) := by
  by_cases hr : s.res = .running
  · by_cases hc : t ≤ s.cur
    · rw [iter_full hr hc]
      exact ⟨hi.chain, hi.latest, hi.cur, Nat.le_trans hi.bound (Nat.le_add_right _ _), fun _ => hc⟩
    · cases e with
      | blk b =>
        rw [iter_blk hr (by omega)]
        refine release_inv _ ⟨hi.chain, hi.latest, hi.cur, ?_, hi.done⟩
        have h1 := insert_length_le b s.buf
        have h2 := hi.bound
        show s.out.length + (insert b s.buf).length ≤ k + 1
        omega
      | closed =>
        rw [iter_closed hr (by omega)]
        have h2 := release_inv (s.buf.length + 1) hi
        exact ⟨h2.chain, h2.latest, h2.cur, h2.bound, fun h => nomatch h⟩
  · rw [iter_stopped hr]
    exact hi.mono (Nat.le_add_right _ _)

theorem foldl_inv {f t first : Nat} : ∀ (evs : List Ev) {k : Nat} {s : St}, Inv f t first k s →
    Inv f t first (k + blockCount evs) (evs.foldl (iter t) s)
  | [], _, _, hi => hi
  | e :: es, k, s, hi => by
    rw [blockCount_cons, ← Nat.add_assoc]
    exact foldl_inv es (iter_inv e hi)

theorem run_inv (f t first : Nat) (evs : List Ev) : Inv f t first (blockCount evs) (run f t first evs) := by
  have h : Inv f t first (0 + blockCount evs) (evs.foldl (iter t) (start f first)) :=
    foldl_inv evs ⟨trivial, rfl, rfl, Nat.le_refl _, fun h => nomatch h⟩
  rw [Nat.zero_add] at h
  rw [run, finish_eq]
  split
  · next hc => exact ⟨h.chain, h.latest, h.cur, h.bound, fun _ => hc.2⟩
  · exact h

end BtcVerif.Model.Reorder
