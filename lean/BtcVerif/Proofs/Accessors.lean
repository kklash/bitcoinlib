import BtcVerif.Proofs.NoPanic

/-! Accessor totality for decoded transactions (C17): whatever `decTx` returns can be serialised
    (with and without witnesses), hence sized, hashed and identified. -/
namespace BtcVerif.Model
open BtcVerif BtcVerif.Parser
open BtcVerif.Gen.Guards

theorem readMany_length {α} (p : Parser α) (n : Nat) (s rest : Bytes) (xs : List α)
    (h : readMany p n s = .ok (xs, rest)) : xs.length = n := by
  induction n generalizing s xs rest with
  | zero => cases h; rfl
  | succ k ih =>
    unfold readMany at h
    obtain ⟨x, s1, _, h2⟩ := bind_eq_ok.mp h
    obtain ⟨ys, s2, h3, h4⟩ := bind_eq_ok.mp h2
    cases h4
    rw [List.length_cons, ih s1 _ ys h3]

theorem decTx_witness_count {s rest : Bytes} {tx : Tx} (h : decTx s = .ok (tx, rest)) :
    ∀ ws, tx.witnesses = some ws → ws.length = tx.inputs.length := by
  unfold decTx at h
  obtain ⟨version, s1, _, h⟩ := bind_eq_ok.mp h
  obtain ⟨hw, s2, _, h⟩ := bind_eq_ok.mp h
  obtain ⟨nIn, s3, _, h⟩ := bind_eq_ok.mp h
  split at h
  · cases h
  obtain ⟨ins, s4, hins, h⟩ := bind_eq_ok.mp h
  obtain ⟨nOut, s5, _, h⟩ := bind_eq_ok.mp h
  split at h
  · cases h
  obtain ⟨outs, s6, _, h⟩ := bind_eq_ok.mp h
  obtain ⟨wits, s7, hwits, h⟩ := bind_eq_ok.mp h
  obtain ⟨lock, s8, _, h⟩ := bind_eq_ok.mp h
  cases h
  rintro ws ⟨rfl⟩
  -- witnesses and inputs are both read `nIn` times
  split at hwits
  · obtain ⟨ws', s9, hr, h9⟩ := bind_eq_ok.mp hwits
    cases h9
    exact (readMany_length _ _ _ _ _ hr).trans (readMany_length _ _ _ _ _ hins).symm
  · cases hwits

theorem decoded_tx_serialises {s rest : Bytes} {tx : Tx} (h : decTx s = .ok (tx, rest)) (w : Bool) :
    ∃ bs, encTx tx w = .ok bs := by
  have hc : canSerialize tx = true := by
    unfold canSerialize
    cases hw : tx.witnesses with
    | none => rfl
    | some ws =>
      have := decTx_witness_count h ws hw
      simp [tx_Tx_canSerialize_4, this]
  unfold encTx
  simp [hc]

end BtcVerif.Model
