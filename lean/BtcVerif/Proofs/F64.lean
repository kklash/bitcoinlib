/-
  C15 — facts about the exact binary64 model `Prim/F64.lean`, over ℚ:
  `rne` is within 1/2 of the quotient; `roundPos p n d` has a `p`-bit mantissa, is within the relative
  error `2^-p` of `n/d` (`roundPos_spec`) and its exponent follows the binade of `n/d` (`roundPos_exp`);
  hence `ofRat` on a range of normal numbers (`ofRat_of_range`); integers below 2^53 convert exactly and
  back (`ofNat_exact`, `toUInt64_shift`).
-/
import Mathlib.Tactic.Linarith
import Mathlib.Tactic.Ring
import Mathlib.Tactic.FieldSimp
import Mathlib.Tactic.NormNum
import Mathlib.Tactic.Positivity
import Mathlib.Algebra.Order.Field.Power
import Mathlib.Data.Rat.Cast.Order
import BtcVerif.Prim.F64

namespace BtcVerif.Proofs.F64
open BtcVerif.Prim

theorem two_zpow_of_nonneg {e : ℤ} (he : 0 ≤ e) : (2 : ℚ) ^ e = (2 : ℚ) ^ e.toNat := by
  rw [← zpow_natCast, Int.toNat_of_nonneg he]

theorem two_zpow_of_nonpos {e : ℤ} (he : e ≤ 0) : (2 : ℚ) ^ e = 1 / (2 : ℚ) ^ (-e).toNat := by
  rw [one_div, ← two_zpow_of_nonneg (by omega), ← zpow_neg, neg_neg]

theorem div_eq_floor_add (N D : Nat) (hD : 0 < D) :
    (N : ℚ) / D = (N / D : ℕ) + ((N % D : ℕ) : ℚ) / D := by
  have hDq : (D : ℚ) ≠ 0 := by exact_mod_cast hD.ne'
  have hN : (N : ℚ) = (N / D : ℕ) * D + (N % D : ℕ) := by exact_mod_cast (Nat.div_add_mod' N D).symm
  rw [add_div' _ _ _ hDq, ← hN]

theorem natdiv_bounds (N D : Nat) (hD : 0 < D) :
    ((N / D : ℕ) : ℚ) ≤ (N : ℚ) / D ∧ (N : ℚ) / D < ((N / D : ℕ) : ℚ) + 1 := by
  have hDq : (0 : ℚ) < D := by exact_mod_cast hD
  have hr : ((N % D : ℕ) : ℚ) / D < 1 := (div_lt_one hDq).mpr (by exact_mod_cast Nat.mod_lt N hD)
  have hr0 : (0 : ℚ) ≤ ((N % D : ℕ) : ℚ) / D := by positivity
  rw [div_eq_floor_add N D hD]
  exact ⟨le_add_of_nonneg_right hr0, (add_lt_add_iff_left _).mpr hr⟩

theorem rne_cases (N D : Nat) :
    (rne N D = N / D ∧ 2 * (N % D) ≤ D) ∨ (rne N D = N / D + 1 ∧ D ≤ 2 * (N % D)) := by
  unfold rne
  simp only
  split
  · omega
  · split <;> omega

theorem rne_err (N D : Nat) (hD : 0 < D) : |((rne N D : ℕ) : ℚ) - (N : ℚ) / D| ≤ 1 / 2 := by
  have hDq : (0 : ℚ) < D := by exact_mod_cast hD
  rw [div_eq_floor_add N D hD]
  rcases rne_cases N D with ⟨h, hr⟩ | ⟨h, hr⟩ <;> rw [h]
  · have hf : ((N % D : ℕ) : ℚ) / D ≤ 1 / 2 := by
      rw [div_le_div_iff₀ hDq two_pos, one_mul, mul_comm]
      exact_mod_cast hr
    rw [sub_add_cancel_left, abs_neg, abs_of_nonneg (by positivity)]
    exact hf
  · have hf : 1 / 2 ≤ ((N % D : ℕ) : ℚ) / D := by
      rw [div_le_div_iff₀ two_pos hDq, one_mul, mul_comm]
      exact_mod_cast hr
    have hlt : ((N % D : ℕ) : ℚ) / D < 1 := (div_lt_one hDq).mpr (by exact_mod_cast Nat.mod_lt N hD)
    rw [Nat.cast_add, Nat.cast_one, add_sub_add_left_eq_sub, abs_of_nonneg (sub_nonneg.mpr hlt.le)]
    linarith

theorem le_rne {k N D : Nat} (hD : 0 < D) (h : (k : ℚ) ≤ (N : ℚ) / D) : k ≤ rne N D := by
  have h1 := (abs_le.mp (rne_err N D hD)).1
  have h2 : (k : ℚ) < ((rne N D : ℕ) : ℚ) + 1 := by linarith
  exact Nat.lt_succ_iff.mp (by exact_mod_cast h2)

theorem rne_le {k N D : Nat} (hD : 0 < D) (h : (N : ℚ) / D ≤ (k : ℚ)) : rne N D ≤ k := by
  have h1 := (abs_le.mp (rne_err N D hD)).2
  have h2 : ((rne N D : ℕ) : ℚ) < (k : ℚ) + 1 := by linarith
  exact Nat.lt_succ_iff.mp (by exact_mod_cast h2)

theorem rne_one (N : Nat) : rne N 1 = N := by
  unfold rne; simp [Nat.mod_one]

theorem scalePair_rat (n d : Nat) (e : Int) (hd : 0 < d) :
    0 < (scalePair n d e).2 ∧
    ((scalePair n d e).1 : ℚ) / ((scalePair n d e).2 : ℚ) = (n : ℚ) / d * (2 : ℚ) ^ (-e) := by
  unfold scalePair
  split
  · rename_i h
    refine ⟨by positivity, ?_⟩
    rw [zpow_neg, two_zpow_of_nonneg h]
    push_cast
    rw [← div_div, div_eq_mul_inv]
  · refine ⟨hd, ?_⟩
    rw [two_zpow_of_nonneg (by omega)]
    push_cast
    rw [mul_div_right_comm]

theorem log2_bounds (n : Nat) (hn : 0 < n) :
    ((2 : ℚ) ^ n.log2 ≤ n) ∧ ((n : ℚ) < 2 * (2 : ℚ) ^ n.log2) := by
  have h1 := Nat.log2_self_le (Nat.pos_iff_ne_zero.mp hn)
  have h2 := @Nat.lt_log2_self n
  constructor
  · exact_mod_cast h1
  · have : (n : ℚ) < (2 : ℚ) ^ (n.log2 + 1) := by exact_mod_cast h2
    rwa [pow_succ, mul_comm] at this

theorem div_log2_bounds (n d : Nat) (hn : 0 < n) (hd : 0 < d) :
    (2 : ℚ) ^ ((n.log2 : ℤ) - d.log2) / 2 < (n : ℚ) / d ∧
    (n : ℚ) / d < 2 * (2 : ℚ) ^ ((n.log2 : ℤ) - d.log2) := by
  have hnq : (0 : ℚ) < n := by exact_mod_cast hn
  have hdq : (0 : ℚ) < d := by exact_mod_cast hd
  obtain ⟨hA1, hA2⟩ := log2_bounds n hn
  obtain ⟨hB1, hB2⟩ := log2_bounds d hd
  have hA : (0 : ℚ) < (2 : ℚ) ^ n.log2 := by positivity
  have hB : (0 : ℚ) < (2 : ℚ) ^ d.log2 := by positivity
  rw [zpow_sub₀ two_ne_zero, zpow_natCast, zpow_natCast, div_div, ← mul_div_assoc]
  constructor
  · calc (2 : ℚ) ^ n.log2 / (2 ^ d.log2 * 2) < 2 ^ n.log2 / d :=
          div_lt_div_of_pos_left hA hdq (by rwa [mul_comm])
      _ ≤ n / d := div_le_div_of_nonneg_right hA1 hdq.le
  · calc (n : ℚ) / d ≤ n / 2 ^ d.log2 := div_le_div_of_nonneg_left hnq.le hB hB1
      _ < 2 * 2 ^ n.log2 / 2 ^ d.log2 := div_lt_div_of_pos_right hA2 hB

def val (x : Nat × Int) : ℚ := (x.1 : ℚ) * (2 : ℚ) ^ x.2

/-- the exponent `roundPos p n d` rounds the mantissa at; the result has this exponent, or one more
    when the rounded mantissa reaches `2^p` -/
def preExp (p n d : Nat) : Int :=
  let e0 : Int := (Nat.log2 n : Int) - (Nat.log2 d : Int) - (p : Int)
  if 2 ^ p ≤ (scalePair n d e0).1 / (scalePair n d e0).2 then e0 + 1 else e0

theorem roundPos_eq (p n d : Nat) :
    roundPos p n d =
      if rne (scalePair n d (preExp p n d)).1 (scalePair n d (preExp p n d)).2 = 2 ^ p
      then (2 ^ (p - 1), preExp p n d + 1)
      else (rne (scalePair n d (preExp p n d)).1 (scalePair n d (preExp p n d)).2, preExp p n d) := rfl

theorem preExp_cases (p n d : Nat) :
    preExp p n d = (n.log2 : ℤ) - (d.log2 : ℤ) - (p : ℤ) ∨
    preExp p n d = (n.log2 : ℤ) - (d.log2 : ℤ) - (p : ℤ) + 1 := by
  unfold preExp
  simp only
  split
  · exact Or.inr rfl
  · exact Or.inl rfl

theorem preExp_window (p n d : Nat) (hn : 0 < n) (hd : 0 < d) :
    (2 : ℚ) ^ p / 2 ≤ (n : ℚ) / d * (2 : ℚ) ^ (-preExp p n d) ∧
    (n : ℚ) / d * (2 : ℚ) ^ (-preExp p n d) < (2 : ℚ) ^ p := by
  obtain ⟨hlo, hhi⟩ := div_log2_bounds n d hn hd
  unfold preExp
  simp only
  -- with the first guess `e0` the scaled quotient lies between `2^p / 2` and `2 · 2^p`
  generalize hk : (n.log2 : ℤ) - (d.log2 : ℤ) = k at hlo hhi ⊢
  have hZ : (0 : ℚ) < (2 : ℚ) ^ (-(k - (p : ℤ))) := by positivity
  have hkZ : (2 : ℚ) ^ k * (2 : ℚ) ^ (-(k - (p : ℤ))) = (2 : ℚ) ^ p := by
    rw [← zpow_add₀ two_ne_zero, show k + -(k - (p : ℤ)) = (p : ℤ) by omega, zpow_natCast]
  have hx0lo : (2 : ℚ) ^ p / 2 < (n : ℚ) / d * (2 : ℚ) ^ (-(k - (p : ℤ))) := by
    rw [← hkZ, ← div_mul_eq_mul_div]
    exact mul_lt_mul_of_pos_right hlo hZ
  have hx0hi : (n : ℚ) / d * (2 : ℚ) ^ (-(k - (p : ℤ))) < 2 * (2 : ℚ) ^ p := by
    rw [← hkZ, ← mul_assoc]
    exact mul_lt_mul_of_pos_right hhi hZ
  obtain ⟨hD0, hq0⟩ := scalePair_rat n d (k - (p : ℤ)) hd
  obtain ⟨hf1, hf2⟩ := natdiv_bounds (scalePair n d (k - (p : ℤ))).1 (scalePair n d (k - (p : ℤ))).2 hD0
  rw [hq0] at hf1 hf2
  split
  · -- the floor has `p + 1` bits: one more halving
    rename_i hc
    have hcq : (2 : ℚ) ^ p ≤ (((scalePair n d (k - (p : ℤ))).1 / (scalePair n d (k - (p : ℤ))).2 : ℕ) : ℚ) := by
      exact_mod_cast hc
    rw [neg_add, zpow_add₀ two_ne_zero, zpow_neg_one, ← mul_assoc, ← div_eq_mul_inv]
    exact ⟨div_le_div_of_nonneg_right (hcq.trans hf1) zero_le_two,
      (div_lt_iff₀' two_pos).mpr hx0hi⟩
  · rename_i hc
    have hcq : (((scalePair n d (k - (p : ℤ))).1 / (scalePair n d (k - (p : ℤ))).2 : ℕ) : ℚ) + 1 ≤ (2 : ℚ) ^ p := by
      exact_mod_cast Nat.lt_of_not_le hc
    exact ⟨hx0lo.le, hf2.trans_le hcq⟩

theorem roundPos_spec (p n d : Nat) (hp : 1 ≤ p) (hn : 0 < n) (hd : 0 < d) :
    2 ^ (p - 1) ≤ (roundPos p n d).1 ∧ (roundPos p n d).1 < 2 ^ p ∧
    |val (roundPos p n d) - (n : ℚ) / d| ≤ (n : ℚ) / d / 2 ^ p := by
  obtain ⟨j, rfl⟩ : ∃ j, p = j + 1 := ⟨p - 1, by omega⟩
  obtain ⟨hDpos, hND⟩ := scalePair_rat n d (preExp (j + 1) n d) hd
  obtain ⟨hlo, hhi⟩ := preExp_window (j + 1) n d hn hd
  have hP : (0 : ℚ) < (2 : ℚ) ^ (j + 1) := by positivity
  have he : (0 : ℚ) < (2 : ℚ) ^ preExp (j + 1) n d := by positivity
  have hqe : (n : ℚ) / d =
      (n : ℚ) / d * (2 : ℚ) ^ (-preExp (j + 1) n d) * (2 : ℚ) ^ preExp (j + 1) n d := by
    rw [mul_assoc, ← zpow_add₀ two_ne_zero, neg_add_cancel, zpow_zero, mul_one]
  rw [← hND] at hlo hhi hqe
  rw [roundPos_eq]
  simp only [Nat.add_sub_cancel]
  -- from here on `N / D` is `n / d` scaled by `2^(-e)` into `[2^j, 2^(j+1))`, and `rne N D` the mantissa
  generalize preExp (j + 1) n d = e at *
  generalize (scalePair n d e).1 = N at *
  generalize (scalePair n d e).2 = D at *
  have herr := rne_err N D hDpos
  -- the mantissa before a carry: between `2^j` and `2^(j+1)`, the latter included
  have hRlo : 2 ^ j ≤ rne N D := le_rne hDpos (by
    rwa [pow_succ, mul_div_assoc, div_self two_ne_zero, mul_one, ← Nat.cast_ofNat, ← Nat.cast_pow] at hlo)
  have hRhi : rne N D ≤ 2 ^ (j + 1) := rne_le hDpos (by exact_mod_cast hhi.le)
  -- an error of 1/2 at the scaled quotient, which is at least `2^p / 2`
  have hval : |(rne N D : ℚ) * (2 : ℚ) ^ e - (n : ℚ) / d| ≤ (n : ℚ) / d / 2 ^ (j + 1) := by
    rw [hqe, ← sub_mul, abs_mul, abs_of_pos he, mul_div_right_comm]
    refine mul_le_mul_of_nonneg_right (herr.trans ?_) he.le
    rwa [le_div_iff₀ hP, div_mul_eq_mul_div, one_mul]
  split
  · rename_i hc
    refine ⟨le_refl _, Nat.pow_lt_pow_right (by omega) (by omega), ?_⟩
    have hv : val (2 ^ j, e + 1) = ((2 ^ (j + 1) : ℕ) : ℚ) * (2 : ℚ) ^ e := by
      simp only [val, zpow_add₀ (two_ne_zero (α := ℚ)), zpow_one, pow_succ]
      push_cast
      ring
    rw [hv, ← hc]
    exact hval
  · rename_i hc
    exact ⟨hRlo, Nat.lt_of_le_of_ne hRhi hc, hval⟩

theorem roundPos_exp (p n d : Nat) (hn : 0 < n) (hd : 0 < d) {K K' : ℤ}
    (hlo : (2 : ℚ) ^ K' ≤ (n : ℚ) / d) (hhi : (n : ℚ) / d < (2 : ℚ) ^ K) :
    K' - p ≤ (roundPos p n d).2 ∧ (roundPos p n d).2 ≤ K + 1 - p := by
  obtain ⟨hw1, hw2⟩ := preExp_window p n d hn hd
  have hZ : (0 : ℚ) < (2 : ℚ) ^ (-preExp p n d) := by positivity
  have h1 : (2 : ℚ) ^ (K' + -preExp p n d) < (2 : ℚ) ^ (p : ℤ) := by
    rw [zpow_add₀ two_ne_zero, zpow_natCast]
    exact (mul_le_mul_of_nonneg_right hlo hZ.le).trans_lt hw2
  have h2 : (2 : ℚ) ^ ((p : ℤ) - 1) < (2 : ℚ) ^ (K + -preExp p n d) := by
    rw [zpow_add₀ two_ne_zero, zpow_sub_one₀ two_ne_zero, zpow_natCast, ← div_eq_mul_inv]
    exact hw1.trans_lt (mul_lt_mul_of_pos_right hhi hZ)
  have h1' := (zpow_lt_zpow_iff_right₀ (one_lt_two (α := ℚ))).mp h1
  have h2' := (zpow_lt_zpow_iff_right₀ (one_lt_two (α := ℚ))).mp h2
  rw [roundPos_eq]
  split <;> simp only <;> omega

theorem ofRat_normal (neg : Bool) (n d : Nat) (hn : 0 < n)
    (h1 : -1074 ≤ (roundPos 53 n d).2) (h2 : (roundPos 53 n d).2 ≤ 971) :
    F64.ofRat neg n d = .fin neg (roundPos 53 n d).1 (roundPos 53 n d).2 := by
  unfold F64.ofRat
  simp only
  rw [if_neg (by omega), if_neg (by omega), if_neg (by omega)]

theorem ofRat_of_range (n d : Nat) (hn : 0 < n) (hd : 0 < d) {K K' : ℤ}
    (hlo : (2 : ℚ) ^ K' ≤ (n : ℚ) / d) (hhi : (n : ℚ) / d < (2 : ℚ) ^ K) (h1 : -1021 ≤ K') (h2 : K ≤ 1023) :
    ∃ m e, F64.ofRat false n d = .fin false m e ∧ 2 ^ 52 ≤ m ∧ m < 2 ^ 53 ∧ K' - 53 ≤ e ∧ e ≤ K - 52 ∧
      |(m : ℚ) * (2 : ℚ) ^ e - (n : ℚ) / d| ≤ (n : ℚ) / d / 2 ^ 53 := by
  obtain ⟨hm1, hm2, herr⟩ := roundPos_spec 53 n d (by omega) hn hd
  obtain ⟨he1, he2⟩ := roundPos_exp 53 n d hn hd hlo hhi
  exact ⟨_, _, ofRat_normal false n d hn (by omega) (by omega), hm1, hm2, by omega, by omega, herr⟩

theorem ofScaled_of_nonpos (neg : Bool) (m : Nat) {e : ℤ} (he : e ≤ 0) :
    F64.ofScaled neg m e = F64.ofRat neg m (2 ^ (-e).toNat) := by
  unfold F64.ofScaled
  split
  · obtain rfl : e = 0 := by omega
    simp
  · rfl

theorem ofNat_exact (v : Nat) (hv0 : 0 < v) (hv : v < 2 ^ 53) :
    ∃ k : ℕ, k ≤ 53 ∧ F64.ofNat v = .fin false (v * 2 ^ k) (-(k : ℤ)) := by
  have hlv : v.log2 < 53 := (Nat.log2_lt (by omega)).mpr hv
  have hl1 : Nat.log2 1 = 0 := by decide
  obtain ⟨k, hk, hk53⟩ : ∃ k : ℕ, preExp 53 v 1 = -(k : ℤ) ∧ k ≤ 53 :=
    ⟨(-preExp 53 v 1).toNat, by rcases preExp_cases 53 v 1 with h | h <;> rw [h, hl1] <;> omega⟩
  have hsc : scalePair v 1 (-(k : ℤ)) = (v * 2 ^ k, 1) := by
    unfold scalePair
    rcases Nat.eq_zero_or_pos k with rfl | h0
    · simp
    · rw [if_neg (by omega), neg_neg, Int.toNat_natCast]
  -- no carry: the scaled value `v · 2^k` is below `2^53`
  have hw := (preExp_window 53 v 1 hv0 one_pos).2
  rw [hk, neg_neg, zpow_natCast, Nat.cast_one, div_one] at hw
  have hlt : v * 2 ^ k < 2 ^ 53 := by exact_mod_cast hw
  have hr : roundPos 53 v 1 = (v * 2 ^ k, -(k : ℤ)) := by
    rw [roundPos_eq, hk, hsc, rne_one, if_neg (by omega)]
  refine ⟨k, hk53, ?_⟩
  unfold F64.ofNat
  rw [ofRat_normal false v 1 hv0 (by rw [hr]; omega) (by rw [hr]; omega), hr]

theorem toUInt64_shift (v k : Nat) (hv : v < 2 ^ 64) :
    F64.toUInt64 (.fin false (v * 2 ^ k) (-(k : ℤ))) = some v := by
  have ht : (if 0 ≤ -(k : ℤ) then v * 2 ^ k * 2 ^ (-(k : ℤ)).toNat
      else v * 2 ^ k / 2 ^ (-(-(k : ℤ))).toNat) = v := by
    rcases Nat.eq_zero_or_pos k with rfl | hk
    · simp
    · rw [if_neg (by omega), neg_neg, Int.toNat_natCast, Nat.mul_div_cancel _ (Nat.two_pow_pos k)]
  simp only [F64.toUInt64, ht, Bool.false_eq_true, if_false, if_pos hv]
  split
  · rename_i h
    rw [h]
  · rfl

end BtcVerif.Proofs.F64
