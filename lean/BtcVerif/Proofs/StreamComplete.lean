/- C16: fault-free, cancel-free runs.  With a re-orderer (ordered streaming, the UTXO scan) it never sees the worker
queues closed before the last block is released (no spurious link error), so such a run hands over the whole range;
the clauses that do not read or write a field of a transition are carried over as in `Proofs/StreamSafety.lean`.
Without one (unordered streaming) it suffices that no worker ever offers an error. -/
import BtcVerif.Proofs.StreamOrdered
import BtcVerif.Proofs.StreamUnordered
namespace BtcVerif.Model.Stream
open BtcVerif.Gen.Guards

/-- labels of the environment's misbehaviour: an RPC that fails, a block that does not link, a cancel -/
def faultOrCancel : Label → Bool
  | some (.rsp _ _ .err) | some (.rsp _ _ .nolink) | some .cancel => true
  | _ => false

inductive ReachableNF (P : Params) : State → Prop
  | init : ReachableNF P (init P)
  | step {s l s'} : ReachableNF P s → Step P s l s' → faultOrCancel l = false → ReachableNF P s'

theorem ReachableNF.reachable {P : Params} {s} (h : ReachableNF P s) : Reachable P s := by
  induction h with
  | init => exact .init
  | step _ hst _ ih => exact .step ih hst

/-- The invariant of fault-free, cancel-free runs with a re-orderer.  `settled` is the heart: a block that its worker has
handed over is released already, buffered, or being sent; with `dn` (a worker is done only past the range) the
re-orderer cannot find the queues closed while it still waits for a block. -/
structure InvNF (P : Params) (s : State) : Prop where
  c0 : s.cancel0 = false
  wk : ∀ (i : Nat) (w : Worker), s.workers[i]? = some w → w.ph ≠ .offerErr ∧ w.ph ≠ .offer false
  lk : s.latestOk = true
  se : s.rph ≠ .sendErr
  cs : s.closedSeen = false
  ge : s.cph ≠ .gotErr
  er : s.errs = 0
  settled : ∀ h, P.lo + 1 ≤ h → h ≤ P.hi → past P s.workers h → h < s.cur ∨ h ∈ s.buf ∨ s.rph = .snd h
  /-- in its `select` the re-orderer waits for a block it does not have -/
  lp : s.rph = .loop → s.cur ∉ s.buf
  dn : ∀ (i : Nat) (w : Worker), s.workers[i]? = some w → w.ph = .done →
    P.hi < w.pos ∨ s.cancel2 = true ∨ s.cancel1 = true
  /-- without faults the re-orderer finishes, and `UpdateUtxos` returns, only after the whole range -/
  fn : s.rph = .fin → s.cur = P.hi + 1
  k1 : s.cancel1 = true → s.cur = P.hi + 1
  /-- the scan calls `next()` only while blocks remain -/
  cc : P.mode = .utxo → (s.cph = .call ∨ s.cph = .gotEnd) → P.lo + s.cnt ≤ P.hi
  /-- without faults `UpdateUtxos` returns nil -/
  retOk : P.mode = .utxo → s.cph = .finished → s.ret = some true

theorem invNF_init {P : Params} (hm : P.mode ≠ .unordered) : InvNF P (init P) where
  c0 := rfl
  wk := fun i w hw => by
    obtain ⟨_, rfl⟩ := initWorkers_get hw
    simp [initWorker, hm]
  lk := rfl
  se := by simp [init, hm]
  cs := rfl
  ge := nofun
  er := rfl
  settled := fun h hlo _ hp => absurd hp (not_past_init P _ (base_ordered hm ▸ hlo))
  lp := by simp [init, hm]
  dn := fun i w hw hd => by
    obtain ⟨_, rfl⟩ := initWorkers_get hw
    simp [initWorker, hm] at hd
  fn := by simp [init, hm]
  k1 := nofun
  cc := nofun
  retOk := nofun

/-- The re-orderer does not find the worker queues closed while it waits for a block: all workers being done, the
worker of the awaited height's residue class is past the range, so that height was handed over — and is therefore
released, buffered or being sent, none of which is the case in the `select`. -/
theorem InvNF.no_spurious_link_error {P : Params} (hp : 0 < P.p) {s}
    (h1 : Inv P s) (h2 : OrdInv P s) (h : InvNF P s) (hr : s.rph = .loop) (hc : s.closed = true) : False := by
  have hrp := h1.rp_at hr
  have hrc : P.lo < s.cur ∧ s.cur ≤ P.hi := h2.rc_at hr
  have hlt : (s.cur - P.base) % P.p < s.workers.length := by rw [h1.len]; exact Nat.mod_lt _ hp
  have hw : s.workers[(s.cur - P.base) % P.p]? = some s.workers[(s.cur - P.base) % P.p] := List.getElem?_eq_getElem hlt
  rcases h.dn _ _ hw ((allDone_iff _).mp (h1.cd hc) _ _ hw) with h' | h' | h'
  · rcases h.settled s.cur hrc.1 hrc.2 ⟨_, hw, Nat.lt_of_le_of_lt hrc.2 h'⟩ with h'' | h'' | h''
    · exact Nat.lt_irrefl _ h''
    · exact h.lp hr h''
    · rw [hr] at h''; cases h''
  · rw [h1.c2, hrp.2.2.1] at h'; cases h'
  · have := h.k1 h'; omega

/-- `UpdateUtxos` does not see the stream end before it has counted the whole range -/
theorem InvNF.no_early_end {P : Params} {s} (h1 : Inv P s) (h2 : OrdInv P s) (h : InvNF P s)
    (hu : P.mode = .utxo) (hc : s.cph = .gotEnd) : False := by
  have hfin := h1.fin_of_streamClosed (by simp [hu]) (h1.closed_of_end (.inl hc))
  -- counted: `cnt = cur - lo`; finished: `cur = hi + 1`; but the scan only calls `next()` while `lo + cnt ≤ hi`
  have := h2.cnt_eq hu (by simp [handed, hc])
  have := h.fn hfin
  have := h.cc hu (.inr hc)
  have := h2.lo
  omega

theorem invNF_step {P : Params} (hm : P.mode ≠ .unordered) (hp : 0 < P.p) {s l s'}
    (h1 : Inv P s) (h2 : OrdInv P s) (h : InvNF P s) (hI : StepI P s l s') (hnf : faultOrCancel l = false) :
    InvNF P s' where
  c0 := by
    cases hI with
    | envCancel => cases hnf
    | _ => exact h.c0
  wk := by
    cases hI with
    | wLocal _ _ _ _ _ hl =>
      refine forall_set h.wk ?_
      cases hl with
      | hashErr | blockNolink | blockErr => cases hnf
      | _ => exact ⟨nofun, nofun⟩
    | wGiveC _ w | wGiveR _ w =>
      exact forall_set h.wk ((advance_ph P w).elim (fun e => by rw [e]; exact ⟨nofun, nofun⟩) fun e => by
        rw [e]; exact ⟨nofun, nofun⟩)
    | wErrC | wErrR => exact forall_set h.wk ⟨nofun, nofun⟩
    | rStart =>
      intro i w hw
      obtain ⟨_, rfl⟩ := initWorkers_get hw
      simp only [initWorker, if_true]; split <;> exact ⟨nofun, nofun⟩
    | _ => exact h.wk
  lk := by
    cases hI with
    | rSingle good | rStart good => cases good; cases hnf; rfl
    | _ => exact h.lk
  se := by
    cases hI with
    | wErrR _ _ hw hp' => exact absurd hp' (h.wk _ _ hw).1
    | rFirst _ _ _ _ hf =>
      cases hf with
      | hashErr | blockErr => cases hnf
      | _ => exact nofun
    | rRelErr _ _ hcs => rw [h.cs] at hcs; cases hcs
    | wGiveR | rSingle | rStart | rS0Loop | rS0Exit | rLoopCancel | rLoopClosed | rRelSend | rRelLoop | rRelExit | rSnd
    | rSendErr => exact nofun
    | _ => exact h.se
  cs := by
    cases hI with
    | rLoopClosed hr hc => exact (h.no_spurious_link_error hp h1 h2 hr hc).elim
    | _ => exact h.cs
  ge := by
    cases hI with
    | wErrC _ _ _ _ hm' => exact absurd hm' hm
    | rSendErr hr => exact absurd hr h.se
    | wGiveC | rS0Loop | rS0Exit | rSnd | cCall | cRetOk | cSeeEnd | cDeliver | cErr | cRetErr | cEnd => exact nofun
    | _ => exact h.ge
  er := by
    cases hI with
    | cErr hc => exact absurd hc h.ge
    | _ => exact h.er
  settled := by
    have hrc := h.settled
    have hb := base_ordered hm
    cases hI with
    | wLocal _ w ph' _ hw =>
      exact fun x a b hx => hrc x a b ((past_set_samepos (w' := { w with ph := ph' }) hw rfl x).mp hx)
    | wErrC _ _ _ _ hm' => exact absurd hm' hm
    | wErrR _ _ hw hp' => exact absurd hp' (h.wk _ _ hw).1
    | wGiveC _ _ _ _ _ hm' => exact absurd hm' hm
    | wGiveR i w g hw hp' _ hr =>
      cases g
      · exact absurd hp' (h.wk i w hw).2
      · intro x a b hx
        rcases (past_set_advance hw (h1.wok i w hw) (h1.idx_lt hw) (hb ▸ a)).mp hx with hx | rfl
        · rcases hrc x a b hx with h' | h' | h'
          · exact .inl h'
          · exact .inr (.inl (mem_insertSorted.mpr (.inr h')))
          · rw [hr] at h'; cases h'
        · exact .inr (.inl (mem_insertSorted.mpr (.inl rfl)))
    | rStart => exact fun x a _ hx => absurd hx (not_past_init P true (hb ▸ a))
    | rS0Loop hr | rS0Exit hr =>
      intro x a b hx
      have hc : s.cur = P.lo ∧ s.buf = [] := h2.rc_at hr
      rcases hrc x a b hx with h' | h' | h'
      · omega
      · rw [hc.2] at h'; cases h'
      · rw [hr] at h'; cases h'
    | rRelSend hr _ hb' =>
      intro x a b hx
      rcases hrc x a b hx with h' | h' | h'
      · exact .inl h'
      · by_cases e : x = s.cur
        · exact .inr (.inr (e ▸ rfl))
        · exact .inr (.inl ((List.mem_erase_of_ne e).mpr h'))
      · rw [hr] at h'; cases h'
    | rSnd h0 hr =>
      intro x a b hx
      rcases hrc x a b hx with h' | h' | h'
      · exact .inl (Nat.lt_succ_of_lt h')
      · exact .inr (.inl h')
      · have : h0 = s.cur := (h2.rc_at hr).1
        rw [hr] at h'; cases h'; exact .inl (this ▸ Nat.lt_succ_self _)
    | rFirst _ _ _ hr hf =>
      intro x a b hx
      refine (hrc x a b hx).imp_right (Or.imp_right fun e => ?_)
      rw [hr] at e; subst e; cases hf
    | rSingle _ hr | rLoopCancel hr | rLoopClosed hr | rRelErr hr | rRelLoop hr | rRelExit hr | rSendErr hr =>
      intro x a b hx
      refine (hrc x a b hx).imp_right (Or.imp_right fun e => ?_)
      rw [hr] at e; cases e
    | _ => exact hrc
  lp := by
    cases hI with
    | rS0Loop hr =>
      have : s.cur = P.lo ∧ s.buf = [] := h2.rc_at hr
      exact fun _ hin => List.not_mem_nil (this.2 ▸ hin)
    | rRelLoop _ hnb => exact fun _ hin => hnb ⟨h.lk, hin⟩
    | rFirst _ _ _ _ hf => cases hf <;> exact nofun
    | wGiveR | wErrR | rSingle | rStart | rS0Exit | rLoopCancel | rLoopClosed | rRelSend | rRelErr | rRelExit | rSnd
    | rSendErr => exact nofun
    | _ => exact h.lp
  dn := by
    cases hI with
    | wLocal _ _ _ _ _ hl =>
      refine forall_set (C := fun _ w => w.ph = .done → _) h.dn fun hd => ?_
      cases hl with
      | ctxDone _ _ hc =>
        simp only [State.workerCtxDone, h.c0, Bool.false_or, Bool.or_eq_true] at hc
        exact .inr hc.symm
      | _ => cases hd
    | wGiveC _ w _ hw hp' | wGiveR _ w _ hw hp' =>
      refine forall_set (C := fun _ w => w.ph = .done → _) h.dn fun hd => .inl ?_
      simp only [advance] at hd ⊢
      split at hd
      · cases hd
      · omega
    | wErrC _ _ hw hp' | wErrR _ _ hw hp' => exact absurd hp' (h.wk _ _ hw).1
    | rStart =>
      intro i w hw hd
      obtain ⟨_, rfl⟩ := initWorkers_get hw
      simp only [initWorker, if_true] at hd ⊢
      split at hd
      · cases hd
      · exact .inl (by omega)
    | rS0Exit | rLoopCancel | rRelExit | rSendErr => exact fun _ _ _ _ => .inr (.inl rfl)
    | cRetOk | cRetErr => exact fun _ _ _ _ => .inr (.inr rfl)
    | _ => exact h.dn
  fn := by
    cases hI with
    | rS0Exit _ _ he => exact fun _ => congrArg (· + 1) he
    | rRelExit _ _ _ hlt => exact fun _ => Nat.le_antisymm h2.hi hlt
    | rLoopCancel _ hc => exact fun _ => h.k1 (by simpa [h.c0] using hc)
    | rSendErr hr => exact absurd hr h.se
    | rFirst _ _ _ _ hf => cases hf <;> exact nofun
    | wGiveR | wErrR | rSingle | rStart | rS0Loop | rLoopClosed | rRelSend | rRelErr | rRelLoop | rSnd => exact nofun
    | _ => exact h.fn
  k1 := by
    cases hI with
    | cRetOk hc hu hn =>
      have := h2.cnt_eq hu (by simp [handed, hc])
      have := h2.hi
      have := h2.lo
      exact fun _ => by show s.cur = P.hi + 1; omega
    | cRetErr hc hu => exact fun _ => h.fn (hc.elim (absurd · h.ge) fun hc => (h.no_early_end h1 h2 hu hc).elim)
    | rS0Loop _ hc | rS0Exit _ hc | rSnd _ _ hc =>
      exact fun hk => by have := (h1.of_cancel1 hk).2; rw [hc] at this; cases this
    | _ => exact h.k1
  cc := by
    cases hI with
    | cCall _ hm' => exact fun hu _ => hm' hu
    | cSeeEnd hc => exact fun hu _ => h.cc hu (.inl hc)
    | wGiveC _ _ _ _ _ hm' | wErrC _ _ _ _ hm' => exact absurd hm' hm
    | rS0Loop | rS0Exit | rSnd | rSendErr | cRetOk | cDeliver | cErr | cRetErr | cEnd =>
      exact fun _ hc => hc.elim nofun nofun
    | _ => exact h.cc
  retOk := by
    cases hI with
    | cRetOk => exact fun _ _ => rfl
    | cRetErr hc hu => exact (hc.elim (absurd · h.ge) fun hc => h.no_early_end h1 h2 hu hc).elim
    | cEnd _ hm' => exact fun hu => absurd hu hm'
    | wGiveC | wErrC | rS0Loop | rS0Exit | rSnd | rSendErr | cCall | cSeeEnd | cDeliver | cErr => exact fun _ => nofun
    | _ => exact h.retOk

theorem reachableNF_inv {P : Params} (hP : P.lo ≤ P.hi) (hm : P.mode ≠ .unordered) (hp : 0 < P.p) {s}
    (hr : ReachableNF P s) : InvNF P s := by
  induction hr with
  | init => exact invNF_init hm
  | step hr' hst hnf ih =>
    exact invNF_step hm hp (reachable_inv hP hr'.reachable) (reachable_ordInv hP hm hr'.reachable) ih (step_inv hP hst) hnf

structure InvNFU (P : Params) (s : State) : Prop where
  c0 : s.cancel0 = false
  wk : ∀ (i : Nat) (w : Worker), s.workers[i]? = some w → w.ph ≠ .offerErr
  ge : s.cph ≠ .gotErr
  er : s.errs = 0

theorem invNFU_init {P : Params} : InvNFU P (init P) where
  c0 := rfl
  wk := fun i w hw => by
    obtain ⟨_, rfl⟩ := initWorkers_get hw
    simp only [initWorker]; split <;> (try split) <;> exact nofun
  ge := nofun
  er := rfl

theorem invNFU_step {P : Params} (hm : P.mode = .unordered) {s l s'}
    (h1 : Inv P s) (h : InvNFU P s) (hI : StepI P s l s') (hnf : faultOrCancel l = false) : InvNFU P s' where
  c0 := by
    cases hI with
    | envCancel => cases hnf
    | _ => exact h.c0
  wk := by
    cases hI with
    | wLocal _ _ _ _ _ hl =>
      refine forall_set h.wk ?_
      cases hl with
      | hashErr | blockErr => cases hnf
      | _ => exact nofun
    | wGiveC _ w | wGiveR _ w => exact forall_set h.wk ((advance_ph P w).elim (· ▸ nofun) (· ▸ nofun))
    | wErrC | wErrR => exact forall_set h.wk nofun
    | rStart _ hr => rw [h1.absent hm] at hr; cases hr
    | _ => exact h.wk
  ge := by
    cases hI with
    | wErrC _ _ hw hp => exact absurd hp (h.wk _ _ hw)
    | rSendErr hr => rw [h1.absent hm] at hr; cases hr
    | wGiveC | rS0Loop | rS0Exit | rSnd | cCall | cRetOk | cSeeEnd | cDeliver | cErr | cRetErr | cEnd => exact nofun
    | _ => exact h.ge
  er := by
    cases hI with
    | cErr hc => exact absurd hc h.ge
    | _ => exact h.er

theorem reachableNF_invU {P : Params} (hP : P.lo ≤ P.hi) (hm : P.mode = .unordered) {s}
    (hr : ReachableNF P s) : InvNFU P s := by
  induction hr with
  | init => exact invNFU_init
  | step hr' hst hnf ih => exact invNFU_step hm (reachable_inv hP hr'.reachable) ih (step_inv hP hst) hnf

end BtcVerif.Model.Stream
