/-
  Pushes, decompilation and opcode stripping: `Model/Script.lean` against `Spec/Script.lean`.
  A script is empty, or starts with a well-formed item, or starts with a push that runs past its end
  (`script_induction`); the reference parser has one equation for each of these cases, the reference
  opcode removal one for a well-formed item, `ReadData` one for a well-formed push and one for a short
  one, and the loops of the model are compared with them case by case.
  Last, `PushData` by the four size classes of a push, and the two facts the multisig builders add.
-/
import BtcVerif.Model.Script
import BtcVerif.Spec.Script
namespace BtcVerif.Proofs.Script
open BtcVerif BtcVerif.Model BtcVerif.Parser
open BtcVerif.Gen BtcVerif.Gen.Guards
open BtcVerif.Spec.Script (Item lenWidth lenField lenValue parse removeStandalone serialize)

theorem lenWidth_cases (b : UInt8) : lenWidth b = 0 ∨ lenWidth b = 1 ∨ lenWidth b = 2 ∨ lenWidth b = 4 := by
  unfold lenWidth; split <;> (try split) <;> (try split) <;> simp

theorem lenWidth_zero_iff (b : UInt8) : lenWidth b = 0 ↔ b.toNat ≤ 0x4b := by
  unfold lenWidth; split <;> (try split) <;> (try split) <;> simp_all

theorem sizeFieldLen_eq (b : UInt8) :
    sizeFieldLen b = if b.toNat ≤ 0x4e then some (lenWidth b) else none := by
  unfold sizeFieldLen lenWidth
  simp only [script_ReadData_0, script_ReadData_1, script_ReadData_2, script_ReadData_3,
    decide_eq_true_eq]
  by_cases h0 : b.toNat ≤ 75
  · simp [h0, Nat.le_trans h0 (by decide : 75 ≤ 78)]
  by_cases h1 : b.toNat = 76
  · simp [h1]
  by_cases h2 : b.toNat = 77
  · simp [h2]
  by_cases h3 : b.toNat = 78
  · simp [h3]
  have : ¬ b.toNat ≤ 78 := by omega
  simp [h0, h1, h2, h3, this]

theorem lenField_eq_leBytes (w n : Nat) : lenField w n = leBytes w n := by
  induction w generalizing n with
  | zero => rfl
  | succ w ih => simp [lenField, leBytes, ih]

theorem lenField_length (w n : Nat) : (lenField w n).length = w := by
  rw [lenField_eq_leBytes, leBytes_length]

theorem lenValue_eq (w : Nat) (s : Bytes) : lenValue w s = leNat (s.take w) := by
  induction w generalizing s with
  | zero => rfl
  | succ w ih =>
    cases s with
    | nil => rfl
    | cons b s => rw [List.take_succ_cons, leNat, lenValue, ih]

theorem lenValue_lt (w : Nat) (rest : Bytes) : lenValue w rest < 256 ^ w := by
  rw [lenValue_eq]
  exact Nat.lt_of_lt_of_le (leNat_lt _)
    (Nat.pow_le_pow_right (by decide) (by rw [List.length_take]; exact Nat.min_le_left _ _))

theorem lenValue_lenField_append (w n : Nat) (tail : Bytes) (h : n < 256 ^ w) :
    lenValue w (lenField w n ++ tail) = n := by
  rw [lenValue_eq, List.take_left' (lenField_length w n), lenField_eq_leBytes, leNat_leBytes w n h]

theorem lenField_lenValue (w : Nat) (rest : Bytes) (h : w ≤ rest.length) :
    lenField w (lenValue w rest) = rest.take w := by
  have := leBytes_leNat (rest.take w)
  rwa [List.length_take, Nat.min_eq_left h, ← lenValue_eq, ← lenField_eq_leBytes] at this

theorem valid_push_iff (b : UInt8) (d : Bytes) :
    (Item.push b d).valid = true ↔ (1 ≤ b.toNat ∧ b.toNat ≤ 0x4e) ∧
      (lenWidth b = 0 → d.length = b.toNat) ∧ (lenWidth b ≠ 0 → d.length < 256 ^ lenWidth b) := by
  simp only [Item.valid, Bool.and_eq_true, decide_eq_true_eq]
  by_cases h : b.toNat ≤ 0x4b
  · simp [h, (lenWidth_zero_iff b).mpr h]
  · simp [h, mt (lenWidth_zero_iff b).mp h]

/-- `readData` on a push opcode, with the tests and the `take`/`drop` of the reference parser -/
theorem readData_cons (b : UInt8) (rest : Bytes) (hb : b.toNat ≤ 0x4e) :
    readData (b :: rest) =
      (let w := lenWidth b
       let n := if w = 0 then b.toNat else lenValue w rest
       if w ≤ rest.length ∧ w + n ≤ rest.length
       then .ok ((rest.drop w).take n, rest.drop (w + n)) else .err) := by
  simp only [readData, sizeFieldLen_eq, hb, if_true]
  by_cases hw : lenWidth b = 0
  · simp only [hw, if_true, readN_eq, Nat.zero_le, true_and, Nat.zero_add, List.drop_zero]
  · simp only [hw, if_false, bind_def, readLE_eq, ← lenValue_eq]
    by_cases h1 : lenWidth b ≤ rest.length
    · simp only [h1, if_true, true_and, readN_eq, List.length_drop, List.drop_drop]
      by_cases h2 : lenWidth b + lenValue (lenWidth b) rest ≤ rest.length
      · rw [if_pos (by omega), if_pos h2]
      · rw [if_neg (by omega), if_neg h2]
    · simp only [h1, if_false, false_and]

theorem push_layout {b : UInt8} {d : Bytes} (h0 : lenWidth b = 0 → d.length = b.toNat)
    (h1 : lenWidth b ≠ 0 → d.length < 256 ^ lenWidth b) (tail : Bytes) :
    let rest := lenField (lenWidth b) d.length ++ d ++ tail
    (if lenWidth b = 0 then b.toNat else lenValue (lenWidth b) rest) = d.length ∧
    lenWidth b + d.length ≤ rest.length ∧
    List.take d.length (List.drop (lenWidth b) rest) = d ∧
    List.drop (lenWidth b + d.length) rest = tail ∧
    List.take (lenWidth b + d.length) rest = lenField (lenWidth b) d.length ++ d := by
  dsimp only
  have hl := lenField_length (lenWidth b) d.length
  have hlen : (lenField (lenWidth b) d.length ++ d).length = lenWidth b + d.length := by
    rw [List.length_append, hl]
  refine ⟨?_, ?_, ?_, List.drop_left' hlen, List.take_left' hlen⟩
  · by_cases hw : lenWidth b = 0
    · rw [if_pos hw, h0 hw]
    · rw [if_neg hw, List.append_assoc]
      exact lenValue_lenField_append _ _ _ (h1 hw)
  · rw [List.length_append, hlen]
    exact Nat.le_add_right _ _
  · rw [List.append_assoc, List.drop_left' hl, List.take_left' rfl]

theorem readData_encoding (b : UInt8) (d rest : Bytes) (hb : b.toNat ≤ 0x4e)
    (h0 : lenWidth b = 0 → d.length = b.toNat) (h1 : lenWidth b ≠ 0 → d.length < 256 ^ lenWidth b) :
    readData (b :: (lenField (lenWidth b) d.length ++ d ++ rest)) = .ok (d, rest) := by
  obtain ⟨e1, e2, e3, e4, -⟩ := push_layout h0 h1 rest
  rw [readData_cons b _ hb]
  simp only [e1]
  rw [if_pos ⟨by omega, e2⟩, e3, e4]

theorem op_not_push {b : UInt8} (hv : (Item.op b).valid = true) : ¬ (1 ≤ b.toNat ∧ b.toNat ≤ 0x4e) := by
  simp only [Item.valid, Bool.or_eq_true, decide_eq_true_eq] at hv
  omega

theorem parse_nil : parse [] = some [] := by
  rw [parse]

theorem parse_item_append (it : Item) (hv : it.valid = true) (tail : Bytes) :
    parse (it.bytes ++ tail) = (parse tail).map (it :: ·) := by
  cases it with
  | op b =>
    simp only [Item.bytes, List.cons_append, List.nil_append]
    rw [parse, if_neg (op_not_push hv)]
    cases parse tail <;> rfl
  | push b d =>
    obtain ⟨hp, h0, h1⟩ := (valid_push_iff b d).mp hv
    obtain ⟨e1, e2, e3, e4, -⟩ := push_layout h0 h1 tail
    simp only [Item.bytes, List.cons_append]
    rw [parse, if_pos hp, if_pos (by omega)]
    simp only [e1]
    rw [if_pos e2, e3, e4]
    cases parse tail <;> rfl

theorem remove_item_append (it : Item) (hv : it.valid = true) (tail : Bytes) (op : UInt8) :
    removeStandalone (it.bytes ++ tail) op =
      (if it = Item.op op then [] else it.bytes) ++ removeStandalone tail op := by
  cases it with
  | op b =>
    simp only [Item.bytes, List.cons_append, List.nil_append]
    rw [removeStandalone, if_neg (op_not_push hv)]
    by_cases h : b = op <;> simp [h]
  | push b d =>
    obtain ⟨hp, h0, h1⟩ := (valid_push_iff b d).mp hv
    obtain ⟨e1, e2, -, e4, e5⟩ := push_layout h0 h1 tail
    simp only [Item.bytes, List.cons_append]
    rw [removeStandalone, if_pos hp, if_pos (by omega)]
    simp only [e1]
    rw [if_pos e2, e4, e5]
    simp

/-- `b` is a push opcode and `rest` ends before the length field or the data it announces -/
def Short (b : UInt8) (rest : Bytes) : Prop :=
  (1 ≤ b.toNat ∧ b.toNat ≤ 0x4e) ∧
    ¬ (lenWidth b ≤ rest.length ∧
      lenWidth b + (if lenWidth b = 0 then b.toNat else lenValue (lenWidth b) rest) ≤ rest.length)

theorem parse_short {b : UInt8} {rest : Bytes} (h : Short b rest) : parse (b :: rest) = none := by
  rw [parse, if_pos h.1]
  by_cases h1 : lenWidth b ≤ rest.length
  · simp only [h1, if_true]
    rw [if_neg (fun h2 => h.2 ⟨h1, h2⟩)]
  · simp only [h1, if_false]

theorem readData_short {b : UInt8} {rest : Bytes} (h : Short b rest) : readData (b :: rest) = .err := by
  rw [readData_cons b rest h.1.2]
  exact if_neg h.2

theorem script_induction {P : Bytes → Prop} (nil : P [])
    (item : ∀ (it : Item) tail, it.valid = true → P tail → P (it.bytes ++ tail))
    (short : ∀ b rest, Short b rest → P (b :: rest)) (s : Bytes) : P s := by
  induction hn : s.length using Nat.strongRecOn generalizing s with
  | _ n ih =>
    cases s with
    | nil => exact nil
    | cons b rest =>
      rw [List.length_cons] at hn
      by_cases hp : 1 ≤ b.toNat ∧ b.toNat ≤ 0x4e
      · by_cases hs : lenWidth b ≤ rest.length ∧
            lenWidth b + (if lenWidth b = 0 then b.toNat else lenValue (lenWidth b) rest) ≤ rest.length
        · -- `rest` is the length field, then as many bytes as it announces, then a script
          obtain ⟨hw, hl⟩ := hs
          generalize hm : (if lenWidth b = 0 then b.toNat else lenValue (lenWidth b) rest) = m at hl
          have hd : ((rest.drop (lenWidth b)).take m).length = m := by
            rw [List.length_take, List.length_drop]; omega
          have hf : lenField (lenWidth b) m = rest.take (lenWidth b) := by
            by_cases h0 : lenWidth b = 0
            · rw [h0]; rfl
            · rw [if_neg h0] at hm
              rw [← hm, lenField_lenValue _ _ hw]
          have hv : (Item.push b ((rest.drop (lenWidth b)).take m)).valid = true := by
            rw [valid_push_iff, hd]
            refine ⟨hp, fun h0 => ?_, fun h0 => ?_⟩
            · rw [← hm, if_pos h0]
            · rw [← hm, if_neg h0]; exact lenValue_lt _ _
          have := item _ (rest.drop (lenWidth b + m)) hv
            (ih _ (by rw [← hn, List.length_drop]; omega) _ rfl)
          rwa [Item.bytes, hd, hf, List.cons_append, List.append_assoc, ← List.drop_drop,
            List.take_append_drop, List.take_append_drop] at this
        · exact short b rest ⟨hp, hs⟩
      · exact item (.op b) rest (by simp only [Item.valid, Bool.or_eq_true, decide_eq_true_eq]; omega)
          (ih _ (by omega) rest rfl)

theorem parse_serialize (items : List Item) (hv : ∀ i ∈ items, i.valid = true) :
    parse (serialize items) = some items := by
  induction items with
  | nil => exact parse_nil
  | cons it items ih =>
    have : serialize (it :: items) = it.bytes ++ serialize items := by simp [serialize]
    rw [this, parse_item_append it (hv it (by simp)), ih (fun i hi => hv i (by simp [hi]))]
    rfl

theorem remove_serialize (items : List Item) (hv : ∀ i ∈ items, i.valid = true) (op : UInt8) :
    removeStandalone (serialize items) op = serialize (items.filter (fun i => i ≠ Item.op op)) := by
  induction items with
  | nil => simp [serialize]; rw [removeStandalone]
  | cons it items ih =>
    have : serialize (it :: items) = it.bytes ++ serialize items := by simp [serialize]
    rw [this, remove_item_append it (hv it (by simp)), ih (fun i hi => hv i (by simp [hi]))]
    by_cases h : it = Item.op op
    · simp [h]
    · simp [h, serialize]

theorem parse_sound (s : Bytes) : ∀ items, parse s = some items →
    serialize items = s ∧ ∀ i ∈ items, i.valid = true := by
  induction s using script_induction with
  | nil =>
    intro items h
    rw [parse_nil] at h
    cases h
    exact ⟨rfl, fun _ hi => nomatch hi⟩
  | item it tail hv ih =>
    intro items h
    rw [parse_item_append it hv, Option.map_eq_some_iff] at h
    obtain ⟨its, hp, rfl⟩ := h
    obtain ⟨hs, hvs⟩ := ih its hp
    refine ⟨?_, fun i hi => ?_⟩
    · rw [← hs]; simp [serialize]
    · rcases List.mem_cons.mp hi with rfl | hi
      · exact hv
      · exact hvs i hi
  | short b rest hs =>
    intro items h
    rw [parse_short hs] at h
    cases h

/-- forgetting which push opcode was used: the library's chunk type -/
def toChunk : Item → Chunk
  | .op b => .op b
  | .push _ d => .push d

def liftOpt {α β} (f : α → β) : Option α → Outcome β
  | some a => .ok (f a)
  | none => .err

theorem liftOpt_eq_ok {α β} {f : α → β} {o : Option α} {b : β} :
    liftOpt f o = .ok b ↔ ∃ a, o = some a ∧ b = f a := by
  cases o <;> simp [liftOpt, eq_comm]

theorem liftOpt_eq_err {α β} {f : α → β} {o : Option α} : liftOpt f o = .err ↔ o = none := by
  cases o <;> simp [liftOpt]

theorem liftOpt_ne_panic {α β} {f : α → β} {o : Option α} : liftOpt f o ≠ .panic := by
  cases o <;> simp [liftOpt]

/-- what `StripOpCode` returns: the reference removal, which is total, on scripts that parse; on a push
    that is cut short the library gives an error where the reference copies the rest -/
def stripRef (s : Bytes) (op : UInt8) : Outcome Bytes :=
  liftOpt (fun _ => removeStandalone s op) (parse s)

/-- the test `Decompile` and `StripOpCode` make on the next byte -/
theorem pushOp_guard (n : Nat) :
    (decide (n > 0) && decide (n ≤ 78)) = true ↔ (1 ≤ n ∧ n ≤ 0x4e) := by
  simp only [Bool.and_eq_true, decide_eq_true_eq]
  omega

theorem decompile_guard (b : UInt8) :
    script_Decompile_1 (nextByte := b.toNat) = true ↔ (1 ≤ b.toNat ∧ b.toNat ≤ 0x4e) :=
  pushOp_guard _

theorem strip_guard1 (b : UInt8) :
    script_StripOpCode_1 (nextByte := b.toNat) = true ↔ (1 ≤ b.toNat ∧ b.toNat ≤ 0x4e) :=
  pushOp_guard _

theorem strip_guard2 (b op : UInt8) :
    script_StripOpCode_2 (nextByte := b.toNat) (op := op.toNat) = true ↔ b ≠ op := by
  simp [script_StripOpCode_2, UInt8.toNat_inj]

theorem pushSpan_eq (b : UInt8) (n : Nat) (hb : b.toNat ≤ 0x4e) : pushSpan b n = lenWidth b + n + 1 := by
  simp only [pushSpan, sizeFieldLen_eq, hb, if_true]
  omega

/-- `script_induction` for the loops that carry a fuel argument: while the fuel is at least the length
    of the script, every turn has fuel left -/
theorem script_fuel_induction {P : Nat → Bytes → Prop} (nil : ∀ fuel, P fuel [])
    (item : ∀ fuel (it : Item) tail, it.valid = true → P fuel tail → P (fuel + 1) (it.bytes ++ tail))
    (short : ∀ fuel b rest, Short b rest → P (fuel + 1) (b :: rest)) (s : Bytes) :
    ∀ fuel, s.length ≤ fuel → P fuel s := by
  induction s using script_induction with
  | nil => exact fun fuel _ => nil fuel
  | item it tail hv ih =>
    intro fuel h
    have : tail.length < (it.bytes ++ tail).length := by cases it <;> simp [Item.bytes] <;> omega
    cases fuel with
    | zero => omega
    | succ fuel => exact item fuel it tail hv (ih fuel (by omega))
  | short b rest hs =>
    intro fuel h
    cases fuel with
    | zero => simp at h
    | succ fuel => exact short fuel b rest hs

theorem decompileFuel_eq (s : Bytes) (fuel : Nat) (h : s.length ≤ fuel) :
    decompileFuel fuel s = liftOpt (List.map toChunk) (parse s) := by
  refine script_fuel_induction
    (P := fun fuel s => decompileFuel fuel s = liftOpt (List.map toChunk) (parse s)) ?_ ?_ ?_ s fuel h
  · intro fuel
    rw [parse_nil]
    cases fuel <;> rfl
  · intro fuel it tail hv ih
    rw [parse_item_append it hv]
    cases it with
    | op b =>
      simp only [Item.bytes, List.cons_append, List.nil_append, decompileFuel]
      rw [if_neg (mt (decompile_guard b).mp (op_not_push hv)), ih]
      cases parse tail <;> rfl
    | push b d =>
      obtain ⟨hp, h0, h1⟩ := (valid_push_iff b d).mp hv
      simp only [Item.bytes, List.cons_append, decompileFuel]
      rw [if_pos ((decompile_guard b).mpr hp), readData_encoding b d tail hp.2 h0 h1]
      simp only
      rw [ih]
      cases parse tail <;> rfl
  · intro fuel b rest hs
    simp only [decompileFuel]
    rw [if_pos ((decompile_guard b).mpr hs.1), readData_short hs, parse_short hs]
    rfl

theorem stripFuel_eq (s : Bytes) (op : UInt8) (fuel : Nat) (h : s.length ≤ fuel) :
    stripFuel fuel s op = stripRef s op := by
  refine script_fuel_induction (P := fun fuel s => stripFuel fuel s op = stripRef s op) ?_ ?_ ?_ s fuel h
  · intro fuel
    rw [stripRef, parse_nil, removeStandalone]
    cases fuel <;> rfl
  · intro fuel it tail hv ih
    rw [stripRef, parse_item_append it hv, remove_item_append it hv]
    rw [stripRef] at ih
    cases it with
    | op b =>
      simp only [Item.bytes, List.cons_append, List.nil_append, stripFuel, Item.op.injEq]
      rw [if_neg (mt (strip_guard1 b).mp (op_not_push hv)), ih]
      by_cases hop : b = op
      · rw [if_neg (mt (strip_guard2 b op).mp (not_not_intro hop)), if_pos hop]
        cases parse tail <;> rfl
      · rw [if_pos ((strip_guard2 b op).mpr hop), if_neg hop]
        cases parse tail <;> rfl
    | push b d =>
      obtain ⟨hp, h0, h1⟩ := (valid_push_iff b d).mp hv
      obtain ⟨-, -, -, -, e5⟩ := push_layout h0 h1 tail
      simp only [Item.bytes, List.cons_append, stripFuel, reduceCtorEq, if_false]
      rw [if_pos ((strip_guard1 b).mpr hp), readData_encoding b d tail hp.2 h0 h1]
      simp only
      rw [ih, pushSpan_eq b _ hp.2, List.take_succ_cons, e5]
      cases parse tail <;> rfl
  · intro fuel b rest hs
    simp only [stripFuel]
    rw [if_pos ((strip_guard1 b).mpr hs.1), readData_short hs, stripRef, parse_short hs]
    rfl

theorem decompile_eq (s : Bytes) : decompile s = liftOpt (List.map toChunk) (parse s) :=
  decompileFuel_eq s s.length (Nat.le_refl _)

theorem stripOpCode_eq (s : Bytes) (op : UInt8) : stripOpCode s op = stripRef s op :=
  stripFuel_eq s op s.length (Nat.le_refl _)

theorem decompile_spec (s : Bytes) (cs : List Chunk) :
    decompile s = .ok cs ↔ ∃ items, parse s = some items ∧ cs = items.map toChunk := by
  rw [decompile_eq]
  exact liftOpt_eq_ok

theorem decompile_ne_panic (s : Bytes) : decompile s ≠ .panic := by
  rw [decompile_eq]
  exact liftOpt_ne_panic

theorem strip_spec {s s' : Bytes} {op : UInt8} (h : stripOpCode s op = .ok s') :
    s' = removeStandalone s op := by
  rw [stripOpCode_eq] at h
  obtain ⟨_, -, e⟩ := liftOpt_eq_ok.mp h
  exact e

theorem strip_ne_panic (s : Bytes) (op : UInt8) : stripOpCode s op ≠ .panic := by
  rw [stripOpCode_eq]
  exact liftOpt_ne_panic

/-- the opcode `PushData` chooses -/
def minOp (n : Nat) : UInt8 :=
  if n < 0x4c then UInt8.ofNat n else if n ≤ 0xff then 0x4c else if n ≤ 0xffff then 0x4d else 0x4e

theorem minOp_cases (n : Nat) :
    (n < 0x4c ∧ minOp n = UInt8.ofNat n ∧ (minOp n).toNat = n ∧ lenWidth (minOp n) = 0) ∨
    (¬ n < 0x4c ∧ n ≤ 0xff ∧ minOp n = 0x4c ∧ lenWidth (minOp n) = 1) ∨
    (¬ n < 0x4c ∧ ¬ n ≤ 0xff ∧ n ≤ 0xffff ∧ minOp n = 0x4d ∧ lenWidth (minOp n) = 2) ∨
    (¬ n < 0x4c ∧ ¬ n ≤ 0xff ∧ ¬ n ≤ 0xffff ∧ minOp n = 0x4e ∧ lenWidth (minOp n) = 4) := by
  unfold minOp
  by_cases c0 : n < 0x4c
  · have t : (UInt8.ofNat n).toNat = n := UInt8.toNat_ofNat_of_lt' (show n < 256 by omega)
    rw [if_pos c0]
    exact Or.inl ⟨c0, rfl, t, by rw [lenWidth_zero_iff, t]; omega⟩
  · rw [if_neg c0]
    by_cases c1 : n ≤ 0xff
    · rw [if_pos c1]
      exact Or.inr (Or.inl ⟨c0, c1, rfl, by decide⟩)
    · rw [if_neg c1]
      by_cases c2 : n ≤ 0xffff
      · rw [if_pos c2]
        exact Or.inr (Or.inr (Or.inl ⟨c0, c1, c2, rfl, by decide⟩))
      · rw [if_neg c2]
        exact Or.inr (Or.inr (Or.inr ⟨c0, c1, c2, rfl, by decide⟩))

theorem push_eq_minOp (d : Bytes) :
    Spec.Script.push d = minOp d.length :: (lenField (lenWidth (minOp d.length)) d.length ++ d) := by
  simp only [Spec.Script.push]
  rcases minOp_cases d.length with ⟨c0, e, -, w⟩ | ⟨c0, c1, e, w⟩ | ⟨c0, c1, c2, e, w⟩ | ⟨c0, c1, c2, e, w⟩
  · rw [w, e, if_pos c0]
    rfl
  · rw [w, e, if_neg c0, if_pos c1]
    simp only [lenField, UInt8.ofNat_mod_size']
    rfl
  · rw [w, e, if_neg c0, if_neg c1, if_pos c2]
    simp only [lenField, UInt8.ofNat_mod_size']
    rfl
  · rw [w, e, if_neg c0, if_neg c1, if_neg c2]
    simp only [lenField, UInt8.ofNat_mod_size', Nat.div_div_eq_div_mul]
    rfl

theorem minOp_fits (n : Nat) (h : n < 2 ^ 32) :
    (minOp n).toNat ≤ 0x4e ∧ (lenWidth (minOp n) = 0 → n = (minOp n).toNat) ∧
      (lenWidth (minOp n) ≠ 0 → n < 256 ^ lenWidth (minOp n)) := by
  rcases minOp_cases n with ⟨c0, -, t, w⟩ | ⟨c0, c1, e, w⟩ | ⟨c0, c1, c2, e, w⟩ | ⟨c0, c1, c2, e, w⟩
  · rw [t, w]; omega
  all_goals rw [w, e]; exact ⟨by decide, by omega, by omega⟩

theorem readData_push (d rest : Bytes) (h : d.length < 2 ^ 32) :
    readData (Spec.Script.push d ++ rest) = .ok (d, rest) := by
  obtain ⟨hb, h0, h1⟩ := minOp_fits d.length h
  rw [push_eq_minOp, List.cons_append]
  exact readData_encoding _ d rest hb h0 h1

theorem lenWidth_bound {b : UInt8} {n : Nat} (h0 : lenWidth b = 0 → n = b.toNat)
    (h1 : lenWidth b ≠ 0 → n < 256 ^ lenWidth b) :
    (lenWidth b = 0 ∧ n < 0x4c) ∨ (lenWidth b = 1 ∧ n ≤ 0xff) ∨ (lenWidth b = 2 ∧ n ≤ 0xffff) ∨
      lenWidth b = 4 := by
  rcases lenWidth_cases b with hw | hw | hw | hw
  · have := (lenWidth_zero_iff b).mp hw
    have := h0 hw
    omega
  all_goals
    have := h1 (by omega)
    rw [hw] at this
    omega

theorem pushData_guards (n : Nat) :
    script_PushData_0 (dataSize := (n : Int)) = decide (n < 0x4c) ∧
    script_PushData_1 (dataSize := (n : Int)) = decide (n ≤ 0xff) ∧
    script_PushData_2 (dataSize := (n : Int)) = decide (n ≤ 0xffff) ∧
    script_PushData_3 (dataSize := (n : Int)) = decide (n < 2 ^ 32) := by
  simp only [script_PushData_0, script_PushData_1, script_PushData_2, script_PushData_3,
    decide_eq_decide]
  omega

theorem pushData_eq_spec (d : Bytes) (h : d.length < 2 ^ 32) :
    pushData d = .ok (Spec.Script.push d) := by
  obtain ⟨g0, g1, g2, g3⟩ := pushData_guards d.length
  -- with the guards in the reference's words the two definitions branch alike
  simp only [pushData, g0, g1, g2, g3, h, Spec.Script.push, decide_eq_true_eq, if_true, opByte,
    constants_OP_PUSHDATA1, constants_OP_PUSHDATA2, constants_OP_PUSHDATA4, leBytes, UInt8.ofNat_mod_size',
    Nat.div_div_eq_div_mul, List.cons_append, List.nil_append, apply_ite Outcome.ok]
  rfl

theorem push_minimal (d : Bytes) (h : d.length < 2 ^ 32) (b : UInt8) (hb : b.toNat ≤ 0x4e)
    (h0 : lenWidth b = 0 → d.length = b.toNat) (h1 : lenWidth b ≠ 0 → d.length < 256 ^ lenWidth b) :
    (Spec.Script.push d).length ≤ (b :: (lenField (lenWidth b) d.length ++ d)).length := by
  rw [push_eq_minOp]
  simp only [List.length_cons, List.length_append, lenField_length]
  have := minOp_cases d.length
  have := lenWidth_bound h0 h1
  omega

theorem pushAll_eq_spec (ds : List Bytes) (h : ∀ d ∈ ds, d.length < 2 ^ 32) :
    pushAll ds = .ok (ds.map Spec.Script.push).flatten := by
  induction ds with
  | nil => rfl
  | cons d ds ih =>
    simp only [pushAll, pushData_eq_spec d (h d (by simp)), ih (fun x hx => h x (by simp [hx])),
      Outcome.bind, List.map_cons, List.flatten_cons]

/-- `int(sigsRequired) > len(publicKeys)` with `sigsRequired` a `uint32` -/
theorem makeP2MS_guard0 (m n : Nat) (hm : m < 2 ^ 32) :
    script_MakeP2MS_0 (sigsRequired := m) (len_publicKeys := n) = decide (n < m) := by
  simp only [script_MakeP2MS_0]
  rw [wrapS_nat _ (by omega)]
  simp

end BtcVerif.Proofs.Script
