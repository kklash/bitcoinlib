import BtcVerif.Model.Heap

/-! The pointer-level model of the legacy signature hash: no object that existed before the call is
    changed (`legacyRun_frame`), and on valid pointers the call has a closed form (`legacyRun_of_valid`)
    whose working copy reads back as the modified transaction `insV`/`outsV` of the value-level model.
    Both clones are one function on lists, `cloneList`. -/

namespace BtcVerif.Model.Heap
open BtcVerif BtcVerif.Model

/-! Three facts about `List.modify`, `set`, `mapIdx` that core does not have. -/

theorem modify_append_right {α} (b v : List α) (i : Nat) (f : α → α) :
    (b ++ v).modify (b.length + i) f = b ++ v.modify i f := by
  induction b with
  | nil => simp
  | cons x b ih => rw [List.cons_append, List.length_cons, Nat.add_right_comm, List.modify_succ_cons, ih]; rfl

theorem take_mapIdx {α β} (f : Nat → α → β) (l : List α) (k : Nat) :
    (l.mapIdx f).take k = (l.take k).mapIdx f := by
  apply List.ext_getElem?
  intro i
  simp only [List.getElem?_take, List.getElem?_mapIdx]
  split <;> rfl

theorem set_eq_modify {α} (l : List α) (n : Nat) (f : α → α) (h : n < l.length) :
    l.set n (f l[n]) = l.modify n f := by
  apply List.ext_getElem?
  intro i
  rw [List.getElem?_set, List.getElem?_modify]
  split
  · rename_i hi; subst hi; simp [h]
  · simp

/-- `cloneIns` and `cloneOuts` are this function on the one field and the other -/
def cloneList {α} (l : List α) : List Addr → List α × List Addr
  | [] => (l, [])
  | a :: as =>
    match l[a]? with
    | some o => let r := cloneList (l ++ [o]) as; (r.1, l.length :: r.2)
    | none => let r := cloneList l as; (r.1, a :: r.2)

theorem cloneIns_eq (h : Heap) (as : List Addr) :
    cloneIns h as = (⟨(cloneList h.ins as).1, h.outs⟩, (cloneList h.ins as).2) := by
  induction as generalizing h with
  | nil => rfl
  | cons a as ih => unfold cloneIns cloneList; cases h.ins[a]? <;> simp only [ih]

theorem cloneOuts_eq (h : Heap) (as : List Addr) :
    cloneOuts h as = (⟨h.ins, (cloneList h.outs as).1⟩, (cloneList h.outs as).2) := by
  induction as generalizing h with
  | nil => rfl
  | cons a as ih => unfold cloneOuts cloneList; cases h.outs[a]? <;> simp only [ih]

theorem cloneList_spec {α} (l : List α) (as : List Addr) :
    (∃ suf, (cloneList l as).1 = l ++ suf) ∧ ∀ b ∈ (cloneList l as).2, l.length ≤ b := by
  induction as generalizing l with
  | nil => exact ⟨⟨[], (List.append_nil l).symm⟩, nofun⟩
  | cons a as ih =>
    unfold cloneList
    cases hget : l[a]? with
    | some o =>
      obtain ⟨⟨suf, hs⟩, hb⟩ := ih (l ++ [o])
      rw [List.length_append] at hb
      exact ⟨⟨o :: suf, by rw [hs, List.append_assoc]; rfl⟩,
        List.forall_mem_cons.mpr ⟨Nat.le_refl _, fun b hbm => Nat.le_of_add_right_le (hb b hbm)⟩⟩
    | none =>
      obtain ⟨hs, hb⟩ := ih l
      exact ⟨hs, List.forall_mem_cons.mpr ⟨List.getElem?_eq_none_iff.mp hget, hb⟩⟩

def Pres (n m : Nat) (h h' : Heap) : Prop :=
  (∀ a, a < n → h'.ins[a]? = h.ins[a]?) ∧ (∀ a, a < m → h'.outs[a]? = h.outs[a]?)

theorem Pres.refl (n m : Nat) (h : Heap) : Pres n m h h := ⟨fun _ _ => rfl, fun _ _ => rfl⟩

theorem Pres.trans {n m : Nat} {h1 h2 h3 : Heap} (a : Pres n m h1 h2) (b : Pres n m h2 h3) : Pres n m h1 h3 :=
  ⟨fun x hx => (b.1 x hx).trans (a.1 x hx), fun x hx => (b.2 x hx).trans (a.2 x hx)⟩

theorem Pres.ite {n m : Nat} {h a b : Heap} (c : Prop) [Decidable c] (ha : Pres n m h a) (hb : Pres n m h b) :
    Pres n m h (if c then a else b) := by
  split <;> assumption

theorem modIn_pres {n m : Nat} (h : Heap) (a : Addr) (f : TxIn → TxIn) (ha : n ≤ a) : Pres n m h (modIn h a f) :=
  ⟨fun _ hx => List.getElem?_modify_ne f _ (Nat.ne_of_gt (Nat.lt_of_lt_of_le hx ha)), fun _ _ => rfl⟩

theorem modOut_pres {n m : Nat} (h : Heap) (a : Addr) (f : TxOut → TxOut) (ha : m ≤ a) : Pres n m h (modOut h a f) :=
  ⟨fun _ _ => rfl, fun _ hx => List.getElem?_modify_ne f _ (Nat.ne_of_gt (Nat.lt_of_lt_of_le hx ha))⟩

theorem pres_append (h : Heap) (si : List TxIn) (so : List TxOut) :
    Pres h.ins.length h.outs.length h ⟨h.ins ++ si, h.outs ++ so⟩ :=
  ⟨fun _ ha => List.getElem?_append_left ha, fun _ ha => List.getElem?_append_left ha⟩

theorem blankOthersFrom_pres {n m : Nat} (nIn : Nat) (z : Bool) (h : Heap) (i : Nat) (as : List Addr)
    (hge : ∀ b ∈ as, n ≤ b) : Pres n m h (blankOthersFrom nIn z h i as) := by
  induction as generalizing h i with
  | nil => exact Pres.refl _ _ _
  | cons a as ih =>
    obtain ⟨ha, hge⟩ := List.forall_mem_cons.mp hge
    exact Pres.trans (.ite _ (modIn_pres h a _ ha) (Pres.refl _ _ _)) (ih _ _ hge)

theorem blankBefore_pres {n m : Nat} (h : Heap) (as : List Addr) (nIn : Nat)
    (hge : ∀ b ∈ as, m ≤ b) : Pres n m h (blankBefore h as nIn) := by
  unfold blankBefore
  have hge' : ∀ b ∈ as.take nIn, m ≤ b := fun b hb => hge b (List.mem_of_mem_take hb)
  generalize as.take nIn = l at hge'
  induction l generalizing h with
  | nil => exact Pres.refl _ _ _
  | cons a l ih =>
    obtain ⟨ha, hge'⟩ := List.forall_mem_cons.mp hge'
    exact Pres.trans (modOut_pres h a _ ha) (ih _ hge')

theorem setScriptAt_pres {n m : Nat} (h : Heap) (ins : List Addr) (nIn : Nat) (sc : Bytes)
    (hge : ∀ b ∈ ins, n ≤ b) : Pres n m h (setScriptAt h ins nIn sc) := by
  unfold setScriptAt
  cases hg : ins[nIn]? with
  | none => exact Pres.refl _ _ _
  | some a => exact modIn_pres h a _ (hge a (List.mem_of_getElem? hg))

theorem keptOuts_mem {outs : List Addr} {nIn : Nat} {none single : Bool} {b : Addr}
    (hb : b ∈ keptOuts outs nIn none single) : b ∈ outs := by
  unfold keptOuts at hb
  split at hb
  · cases hb
  · split at hb
    · exact List.mem_of_mem_take hb
    · exact hb

/-- **Frame theorem.** Whatever the transaction, the index, the script code and the flags: every
    object that existed before `SignatureHashForInput` ran is unchanged afterwards. -/
theorem legacyRun_frame (h : Heap) (tx : TxObj) (nIn : Nat) (sc : Bytes) (none single acp : Bool) :
    Pres h.ins.length h.outs.length h (legacyRun h tx nIn sc none single acp).1 := by
  -- every write goes through an address returned by `cloneList`, and those are at or above the old length
  obtain ⟨⟨si, ei⟩, hbi⟩ := cloneList_spec h.ins tx.inputs
  obtain ⟨⟨so, eo⟩, hbo⟩ := cloneList_spec h.outs tx.outputs
  simp only [legacyRun, legacyRunWith, cloneIns_eq, cloneOuts_eq, ei, eo]
  have p3 := (pres_append h si so).trans (setScriptAt_pres _ _ nIn sc hbi)
  have p4 := Pres.ite (acp = true) p3 (p3.trans (blankOthersFrom_pres nIn (none || single) _ 0 _ hbi))
  exact .ite _ (p4.trans (blankBefore_pres _ _ nIn fun b hb => hbo b (keptOuts_mem hb))) p4

theorem readAll_congr {α} (f g : Addr → Option α) (as : List Addr) (h : ∀ a ∈ as, f a = g a) :
    readAll f as = readAll g as := by
  induction as with
  | nil => rfl
  | cons a as ih =>
    simp only [readAll, h a List.mem_cons_self, ih (fun b hb => h b (List.mem_cons_of_mem _ hb))]

theorem readAll_cons_eq_some {α} {f : Addr → Option α} {a : Addr} {as : List Addr} {r : List α} :
    readAll f (a :: as) = some r ↔ ∃ x xs, f a = some x ∧ readAll f as = some xs ∧ r = x :: xs := by
  rw [readAll]
  split
  · rename_i x xs hx hxs
    simp only [hx, hxs, Option.some.injEq]
    exact ⟨fun h => ⟨x, xs, rfl, rfl, h.symm⟩, fun ⟨_, _, h1, h2, h3⟩ => by rw [h3, h1, h2]⟩
  · rename_i hno
    refine ⟨nofun, fun ⟨x, xs, h1, h2, _⟩ => absurd h2 (hno x xs h1)⟩

theorem readAll_eq_some_iff {α} {f : Addr → Option α} {as : List Addr} {xs : List α} :
    readAll f as = some xs ↔ as.map f = xs.map some := by
  induction as generalizing xs with
  | nil => cases xs <;> simp [readAll]
  | cons a as ih =>
    rw [readAll_cons_eq_some]
    cases xs with
    | nil => simp
    | cons x xs => simp [ih]

theorem readAll_take {α} {f : Addr → Option α} {as : List Addr} {xs : List α} (h : readAll f as = some xs)
    (k : Nat) : readAll f (as.take k) = some (xs.take k) := by
  rw [readAll_eq_some_iff] at h ⊢
  rw [List.map_take, List.map_take, h]

theorem readAll_drop {α} {f : Addr → Option α} {as : List Addr} {xs : List α} (h : readAll f as = some xs)
    (k : Nat) : readAll f (as.drop k) = some (xs.drop k) := by
  rw [readAll_eq_some_iff] at h ⊢
  rw [List.map_drop, List.map_drop, h]

theorem readAll_append {α} {l : List α} (t : List α) {as : List Addr} {xs : List α}
    (h : readAll (fun a => l[a]?) as = some xs) : readAll (fun a => (l ++ t)[a]?) as = some xs := by
  induction as generalizing xs with
  | nil => exact h
  | cons a as ih =>
    obtain ⟨x, xs', hx, hxs, rfl⟩ := readAll_cons_eq_some.mp h
    refine readAll_cons_eq_some.mpr ⟨x, xs', ?_, ih hxs, rfl⟩
    rw [← hx]
    exact List.getElem?_append_left (List.getElem?_eq_some_iff.mp hx).1

theorem readAll_fresh {α} (b v : List α) {n : Nat} (hl : v.length = n) :
    readAll (fun a => (b ++ v)[a]?) (List.range' b.length n) = some v := by
  subst hl
  rw [readAll_eq_some_iff]
  apply List.ext_getElem (by simp)
  intro i h1 h2
  have hi : i < v.length := by simpa using h2
  simp [hi]

theorem readTx_eq_some {h : Heap} {tx : TxObj} {is : List TxIn} {os : List TxOut} :
    readTx h tx = some (is, os) ↔
      readAll (fun a => h.ins[a]?) tx.inputs = some is ∧ readAll (fun a => h.outs[a]?) tx.outputs = some os := by
  unfold readTx
  split
  · rename_i h1 h2; simp [h1, h2]
  · rename_i hno
    exact ⟨nofun, fun ⟨h1, h2⟩ => absurd h2 (hno _ _ h1)⟩

theorem cloneList_valid {α} (l : List α) (as : List Addr) (xs : List α)
    (hr : readAll (fun a => l[a]?) as = some xs) :
    cloneList l as = (l ++ xs, List.range' l.length xs.length) := by
  induction as generalizing l xs with
  | nil => cases hr; simp [cloneList]
  | cons a as ih =>
    obtain ⟨x, xs', hx, hxs, rfl⟩ := readAll_cons_eq_some.mp hr
    rw [cloneList, hx]
    simp only [ih _ _ (readAll_append [x] hxs), List.append_assoc, List.singleton_append, List.length_append,
      List.length_cons, List.length_nil, List.range'_succ]

/-- what the loop over the inputs does to input `i`, and the blanked output: `insV` and `outsV` below map
    exactly these (spelt out there), so they unify with `mapIdx (blankG ..)`, `blankOut` -/
abbrev blankG (nIn : Nat) (z : Bool) (i : Nat) (o : TxIn) : TxIn :=
  if i ≠ nIn then { o with script := [], sequence := if z then 0 else o.sequence } else o

abbrev blankOut : TxOut := { value := 0xffffffffffffffff, script := [] }

/-- the value-level surgery on the inputs (the shape of `Model.legacyPre`, flags as plain booleans) -/
def insV (is : List TxIn) (nIn : Nat) (sc : Bytes) (zeroSeq acp : Bool) : List TxIn :=
  let is1 := is.modify nIn (fun o => { o with script := sc })
  if acp then (is1.drop nIn).take 1
  else is1.mapIdx fun i vin => if i ≠ nIn then { vin with script := [], sequence := if zeroSeq then 0 else vin.sequence } else vin

def outsV (os : List TxOut) (nIn : Nat) (none single : Bool) : List TxOut :=
  if none then [] else if single then
    (os.take (nIn + 1)).mapIdx fun i o => if i < nIn then { value := 0xffffffffffffffff, script := [] } else o
  else os

/-! The steps of `legacyRun` on a heap whose last objects are the clones `v`, at the addresses
    `range' b.length v.length`. `blankOthers_fresh` and `blankBefore_kept` carry the `if` that surrounds the
    step in `legacyRunWith`, so that `legacyRun_of_valid` is two rewrites. -/

theorem setScriptAt_fresh (b v : List TxIn) (o : List TxOut) (nIn : Nat) (sc : Bytes) :
    setScriptAt ⟨b ++ v, o⟩ (List.range' b.length v.length) nIn sc
      = ⟨b ++ v.modify nIn (fun x => { x with script := sc }), o⟩ := by
  unfold setScriptAt
  by_cases hn : nIn < v.length
  · rw [List.getElem?_range' hn, Nat.one_mul]
    exact congrArg (Heap.mk · o) (modify_append_right b v nIn _)
  · rw [List.getElem?_eq_none_iff.mpr (by simpa using hn), List.modify_eq_self (Nat.le_of_not_lt hn)]

theorem modIn_fresh (b : List TxIn) (x : TxIn) (v : List TxIn) (o : List TxOut) (f : TxIn → TxIn) :
    modIn ⟨b ++ x :: v, o⟩ b.length f = ⟨b ++ [f x] ++ v, o⟩ := by
  have := modify_append_right b (x :: v) 0 f
  rw [modIn, List.append_assoc]
  exact congrArg (Heap.mk · o) this

theorem modOut_fresh (i : List TxIn) (b : List TxOut) (x : TxOut) (v : List TxOut) (f : TxOut → TxOut) :
    modOut ⟨i, b ++ x :: v⟩ b.length f = ⟨i, b ++ [f x] ++ v⟩ := by
  have := modify_append_right b (x :: v) 0 f
  rw [modOut, List.append_assoc]
  exact congrArg (Heap.mk i) this

theorem blankOthersFrom_fresh (nIn : Nat) (z : Bool) (b v : List TxIn) (o : List TxOut) (j : Nat) :
    blankOthersFrom nIn z ⟨b ++ v, o⟩ j (List.range' b.length v.length)
      = ⟨b ++ v.mapIdx (fun i => blankG nIn z (j + i)), o⟩ := by
  induction v generalizing b j with
  | nil => rfl
  | cons x v ih =>
    have step := ih (b ++ [blankG nIn z j x]) (j + 1)
    rw [List.length_append, List.length_singleton] at step
    rw [List.length_cons, List.range'_succ, blankOthersFrom]
    refine Eq.trans (congrArg (blankOthersFrom nIn z · (j + 1) _) ?_) (step.trans ?_)
    · unfold blankG
      split
      · exact modIn_fresh b x v o _
      · rw [List.append_assoc]; rfl
    · rw [List.mapIdx_cons, List.append_assoc]
      simp only [Nat.add_zero, List.singleton_append, Nat.add_assoc, Nat.add_comm 1]

theorem blankBefore_fresh (i : List TxIn) (b v : List TxOut) (k : Nat) :
    ((List.range' b.length v.length).take k).foldl (fun h a => modOut h a (fun _ => blankOut)) ⟨i, b ++ v⟩
      = ⟨i, b ++ v.mapIdx (fun j x => if j < k then blankOut else x)⟩ := by
  induction v generalizing b k with
  | nil => cases k <;> rfl
  | cons x v ih =>
    cases k with
    | zero => simpa using (List.mapIdx_eq_iff.mpr fun i => by simp).symm
    | succ k =>
      have step := ih (b ++ [blankOut]) k
      rw [List.length_append, List.length_singleton] at step
      rw [List.length_cons, List.range'_succ, List.take_succ_cons, List.foldl_cons, modOut_fresh, step,
        List.mapIdx_cons, List.append_assoc]
      simp

theorem blankOthers_fresh (b v : List TxIn) (o : List TxOut) (n nIn : Nat) (z acp : Bool) (hl : v.length = n) :
    (if acp = true then (⟨b ++ v, o⟩ : Heap) else blankOthers ⟨b ++ v, o⟩ (List.range' b.length n) nIn z)
      = ⟨b ++ if acp = true then v else v.mapIdx (blankG nIn z), o⟩ := by
  subst hl
  split
  · rfl
  · simpa [blankOthers] using blankOthersFrom_fresh nIn z b v o 0

theorem blankBefore_kept (i : List TxIn) (b v : List TxOut) (nIn : Nat) (none single : Bool) :
    (if (!none && single) = true then
        blankBefore ⟨i, b ++ v⟩ (keptOuts (List.range' b.length v.length) nIn none single) nIn
      else ⟨i, b ++ v⟩)
      = ⟨i, b ++ if none = true then v
          else if single = true then v.mapIdx (fun j x => if j < nIn then blankOut else x) else v⟩ := by
  cases none
  · cases single
    · rfl
    · rw [if_pos rfl, blankBefore, keptOuts, if_neg Bool.false_ne_true, if_pos rfl, List.take_take,
        Nat.min_eq_left (Nat.le_succ nIn)]
      exact blankBefore_fresh i b v nIn
  · rfl

/-- the clones of the inputs after the call: script code installed, the others blanked unless ANYONECANPAY -/
def insW (is : List TxIn) (nIn : Nat) (sc : Bytes) (z acp : Bool) : List TxIn :=
  if acp = true then is.modify nIn fun x => { x with script := sc }
  else (is.modify nIn fun x => { x with script := sc }).mapIdx (blankG nIn z)

/-- the clones of the outputs after the call -/
def outsW (os : List TxOut) (nIn : Nat) (none single : Bool) : List TxOut :=
  if none = true then os else if single = true then os.mapIdx (fun j x => if j < nIn then blankOut else x) else os

/-- **Closed form.** When the caller's pointers are valid, the call appends the clones at consecutive fresh
    addresses and makes every assignment inside those two blocks; the working copy keeps a window of the fresh
    addresses. -/
theorem legacyRun_of_valid {h : Heap} {tx : TxObj} {is : List TxIn} {os : List TxOut} (nIn : Nat) (sc : Bytes)
    (none single acp : Bool) (hr : readTx h tx = some (is, os)) :
    legacyRun h tx nIn sc none single acp =
      (⟨h.ins ++ insW is nIn sc (none || single) acp, h.outs ++ outsW os nIn none single⟩,
        { tx with
          inputs := if acp = true then ((List.range' h.ins.length is.length).drop nIn).take 1
                    else List.range' h.ins.length is.length,
          outputs := keptOuts (List.range' h.outs.length os.length) nIn none single,
          hasWitnesses := false }) := by
  obtain ⟨hri, hro⟩ := readTx_eq_some.mp hr
  simp only [legacyRun, legacyRunWith, cloneIns_eq, cloneOuts_eq, cloneList_valid _ _ _ hri,
    cloneList_valid _ _ _ hro, setScriptAt_fresh]
  simp only [blankOthers_fresh, List.length_modify, blankBefore_kept]
  rfl

theorem readAll_insW (b is : List TxIn) (nIn : Nat) (sc : Bytes) (z acp : Bool) :
    readAll (fun a => (b ++ insW is nIn sc z acp)[a]?)
        (if acp = true then ((List.range' b.length is.length).drop nIn).take 1 else List.range' b.length is.length)
      = some (insV is nIn sc z acp) := by
  unfold insW insV
  cases acp
  · exact readAll_fresh _ _ (List.length_mapIdx.trans (List.length_modify ..))
  · exact readAll_take (readAll_drop (readAll_fresh _ _ (List.length_modify ..)) nIn) 1

theorem readAll_outsW (b os : List TxOut) (nIn : Nat) (none single : Bool) :
    readAll (fun a => (b ++ outsW os nIn none single)[a]?) (keptOuts (List.range' b.length os.length) nIn none single)
      = some (outsV os nIn none single) := by
  unfold outsW keptOuts outsV
  cases none
  · cases single
    · exact readAll_fresh _ _ rfl
    · rw [if_neg Bool.false_ne_true, if_pos rfl, ← take_mapIdx]
      exact readAll_take (readAll_fresh _ _ List.length_mapIdx) (nIn + 1)
  · rfl

end BtcVerif.Model.Heap
