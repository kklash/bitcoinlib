/-
  C15 — the UTXO state machine (`Model/Utxo.lean`): closed forms of its operations on the association list, that the
  keys stay distinct, its refinement of the reference (`Spec/Utxo.lean`, `step_refines`, `run_refines`), and, about the
  reference alone, what applying a block does to a single key (`applyTx_declarative` and the lemmas after it).
-/
import BtcVerif.Model.Utxo
import BtcVerif.Spec.Utxo

namespace BtcVerif.Proofs.Utxo
open BtcVerif BtcVerif.Model BtcVerif.Model.Utxo
open BtcVerif.Gen.Guards

def keys (l : List Entry) : List PrevOut := l.map Prod.fst

@[simp] theorem keys_nil : keys [] = [] := rfl
@[simp] theorem keys_cons (e : Entry) (l : List Entry) : keys (e :: l) = e.1 :: keys l := rfl

theorem keys_erase (k : PrevOut) (l : List Entry) : keys (erase k l) = (keys l).filter (· ≠ k) := by
  induction l with
  | nil => rfl
  | cons e rest ih =>
    unfold erase
    by_cases h : e.1 = k <;> simp [h, ih]

theorem lookup_erase (k k' : PrevOut) (l : List Entry) :
    lookup k (erase k' l) = if k = k' then none else lookup k l := by
  induction l with
  | nil => simp [erase, lookup]
  | cons e rest ih =>
    unfold erase
    by_cases h1 : e.1 = k'
    · rw [if_pos h1, ih, lookup]
      by_cases h2 : k = k'
      · rw [if_pos h2, if_pos h2]
      · rw [if_neg h2, if_neg h2, if_neg (fun h => h2 (h.symm.trans h1))]
    · rw [if_neg h1, lookup, lookup, ih]
      by_cases h2 : e.1 = k
      · rw [if_pos h2, if_pos h2, if_neg (fun h => h1 (h2.trans h))]
      · rw [if_neg h2, if_neg h2]

theorem lookup_insert (k k' : PrevOut) (v : TxOut) (l : List Entry) :
    lookup k (store k' v l) = if k = k' then some v else lookup k l := by
  unfold store
  rw [lookup, lookup_erase]
  by_cases h : k = k'
  · subst h
    simp
  · have : ¬ k' = k := fun h' => h h'.symm
    simp [h, this]

theorem nodup_erase {l : List Entry} (k : PrevOut) (h : (keys l).Nodup) : (keys (erase k l)).Nodup := by
  rw [keys_erase]
  exact h.sublist List.filter_sublist

theorem nodup_insert {l : List Entry} (k : PrevOut) (v : TxOut) (h : (keys l).Nodup) :
    (keys (store k v l)).Nodup := by
  refine List.nodup_cons.mpr ⟨fun (hm : k ∈ keys (erase k l)) => ?_, nodup_erase k h⟩
  rw [keys_erase] at hm
  exact of_decide_eq_true (List.mem_filter.mp hm).2 rfl

theorem lookup_isSome_iff (k : PrevOut) (l : List Entry) : (lookup k l).isSome ↔ k ∈ keys l := by
  induction l with
  | nil => simp [lookup]
  | cons e rest ih =>
    unfold lookup
    by_cases h : e.1 = k
    · simp [h]
    · have : ¬ k = e.1 := fun h' => h h'.symm
      simp [h, ih, this]

theorem lookup_eq_none {k : PrevOut} {l : List Entry} (h : k ∉ keys l) : lookup k l = none :=
  Option.not_isSome_iff_eq_none.mp (fun hs => h ((lookup_isSome_iff k l).mp hs))

theorem lookup_eq_some_iff {l : List Entry} (h : (keys l).Nodup) (k : PrevOut) (v : TxOut) :
    lookup k l = some v ↔ (k, v) ∈ l := by
  induction l with
  | nil => simp [lookup]
  | cons e rest ih =>
    obtain ⟨hn, hr⟩ := List.nodup_cons.mp h
    rw [lookup, List.mem_cons]
    by_cases h1 : e.1 = k
    · have : (k, v) ∉ rest := fun hv => hn (h1 ▸ List.mem_map.mpr ⟨(k, v), hv, rfl⟩)
      simp only [if_pos h1, Option.some.injEq, this, or_false]
      exact ⟨fun h => by rw [← h, ← h1], fun h => by rw [← h]⟩
    · rw [if_neg h1, ih hr]
      exact ⟨Or.inr, fun h => h.resolve_left (fun he => h1 (he ▸ rfl))⟩

def abs (s : State) : Spec.Utxo.USet := fun k => lookup k (entries s)

theorem abs_none : abs none = Spec.Utxo.empty := rfl

theorem addOutput_some (s : State) (k : PrevOut) (v : TxOut) :
    addOutput s (some k) v = (some (store k v (entries s)), .unit) := by
  cases s <;> simp [addOutput, unspent_OutputSet_AddOutput_0, entries]

theorem addOutput_none (s : State) (v : TxOut) :
    addOutput s none v = (some (entries s), .panic) := by
  cases s <;> simp [addOutput, unspent_OutputSet_AddOutput_0, entries]

theorem removeByOutpoint_some (s : State) (k : PrevOut) :
    removeByOutpoint s (some k) = (s.map (erase k), .unit) := by
  cases s <;> simp [removeByOutpoint, unspent_OutputSet_RemoveByOutpoint_0, entries]

theorem removeByOutpoint_none (s : State) :
    removeByOutpoint s none = (s, if s.isNone then .unit else .panic) := by
  cases s <;> rfl

theorem entries_map_erase (s : State) (k : PrevOut) : entries (s.map (erase k)) = erase k (entries s) := by
  cases s <;> simp [entries, erase]

theorem removeByHash_eq (s : State) (h : Bytes) (i : Nat) :
    removeByHash s h i = (s.map (erase ⟨h, i⟩), .unit) := by
  cases s <;> simp [removeByHash, removeByOutpoint, unspent_OutputSet_RemoveByHash_0,
    unspent_OutputSet_RemoveByOutpoint_0, entries]

theorem size_eq_zero_lookup {s : State} (h : size s = 0) (k : PrevOut) : lookup k (entries s) = none := by
  unfold size at h
  have : entries s = [] := List.eq_nil_of_length_eq_zero h
  rw [this]; rfl

theorem getByOutpoint_some (s : State) (k : PrevOut) :
    getByOutpoint s (some k) = .found ((lookup k (entries s)).map fun v => (k, v)) := by
  unfold getByOutpoint
  simp only [unspent_OutputSet_GetByOutpoint_0, Option.isNone_some, Bool.false_or,
    unspent_OutputSet_GetByOutpoint_1]
  by_cases h0 : size s = 0
  · simp [h0, size_eq_zero_lookup h0 k]
  · have : ¬ ((size s : Int) = 0) := by omega
    simp only [this, decide_false, Bool.false_eq_true, if_false]
    cases lookup k (entries s) <;> simp

theorem abs_addOutput (s : State) (k : PrevOut) (v : TxOut) :
    abs (addOutput s (some k) v).1 = Spec.Utxo.put (abs s) k v := by
  funext k'
  simp [addOutput_some, abs, entries, lookup_insert, Spec.Utxo.put]

theorem abs_erase (s : State) (k : PrevOut) : abs (s.map (erase k)) = Spec.Utxo.del (abs s) k := by
  funext k'
  simp [abs, entries_map_erase, lookup_erase, Spec.Utxo.del]

theorem fromHexChar_eq (c : UInt8) : fromHexChar c = Spec.Utxo.hexDigitVal c := rfl

theorem hexDecode_eq_unhex (bs : Bytes) : hexDecode bs = Spec.Utxo.unhex bs := by
  fun_induction hexDecode bs with
  | case1 => rfl
  | case2 => rfl
  | case3 a b rest x y tl htl hy hx ih =>
    simp [Spec.Utxo.unhex, ← fromHexChar_eq, hx, hy, ← ih, htl]
  | case4 a b rest hne ih =>
    simp only [Spec.Utxo.unhex, ← fromHexChar_eq, ← ih]
    cases h1 : fromHexChar a <;> cases h2 : fromHexChar b <;> cases h3 : hexDecode rest <;> simp
    exact hne _ _ _ h1 h2 h3

theorem hexDecode_length {bs b : Bytes} (h : hexDecode bs = some b) : bs.length = 2 * b.length := by
  fun_induction hexDecode bs generalizing b with
  | case1 => simp at h; subst h; rfl
  | case2 => cases h
  | case3 a c rest x y tl htl hy hx ih =>
    simp only [Option.some.injEq] at h
    subst h
    have := ih htl
    simp only [List.length_cons]; omega
  | case4 a c rest hne ih => cases h

theorem fromHexChar_hexDigitLower : ∀ n : Fin 16, fromHexChar (hexDigitLower n.val) = some n.val := by decide

theorem hexEncode_cons (b : UInt8) (bs : Bytes) :
    hexEncode (b :: bs) = hexDigitLower (b.toNat / 16) :: hexDigitLower (b.toNat % 16) :: hexEncode bs := rfl

theorem hexDecode_hexEncode (bs : Bytes) : hexDecode (hexEncode bs) = some bs := by
  induction bs with
  | nil => rfl
  | cons b rest ih =>
    have h1 := fromHexChar_hexDigitLower ⟨b.toNat / 16, by have := b.toNat_lt; omega⟩
    have h2 := fromHexChar_hexDigitLower ⟨b.toNat % 16, by omega⟩
    have : 16 * (b.toNat / 16) + b.toNat % 16 = b.toNat := by omega
    simp only at h1 h2
    rw [hexEncode_cons, hexDecode, h1, h2, ih]
    simp [this]

theorem hexEncode_length (bs : Bytes) : (hexEncode bs).length = 2 * bs.length := by
  induction bs with
  | nil => rfl
  | cons b rest ih =>
    rw [hexEncode_cons, List.length_cons, List.length_cons, List.length_cons, ih]
    omega

theorem copy32_of_length {b : Bytes} (h : b.length = 32) : copy32 b = b := by
  unfold copy32
  rw [List.take_append_of_le_length (by omega)]
  exact List.take_of_length_le (by omega)

theorem txidHash_eq (txid : Bytes) :
    Spec.Utxo.txidHash txid =
      if txid.length = 64 then (hexDecode txid).map fun b => (copy32 b).reverse else none := by
  unfold Spec.Utxo.txidHash
  split
  · rename_i hl
    rw [← hexDecode_eq_unhex]
    cases h : hexDecode txid with
    | none => rfl
    | some b =>
      have := hexDecode_length h
      simp [copy32_of_length (b := b) (by omega)]
  · rfl

theorem removeByTxid_eq (s : State) (txid : Bytes) (i : Nat) :
    removeByTxid s txid i =
      (match Spec.Utxo.txidHash txid with
        | some h => s.map (erase ⟨h, i⟩)
        | none => s, .unit) := by
  rw [txidHash_eq]
  unfold removeByTxid
  by_cases hl : txid.length = 64
  · simp only [unspent_OutputSet_RemoveByTxid_0, hl, unspent_OutputSet_RemoveByTxid_1]
    cases s with
    | none => cases hexDecode txid <;> simp
    | some l => cases hexDecode txid <;> simp [removeByOutpoint_some]
  · have : ((txid.length : Int) ≠ 64) := by omega
    simp [unspent_OutputSet_RemoveByTxid_0, hl, this]

theorem getByTxid_eq (s : State) (txid : Bytes) (i : Nat) :
    getByTxid s txid i = .found (match Spec.Utxo.txidHash txid with
      | some h => (lookup ⟨h, i⟩ (entries s)).map fun v => (⟨h, i⟩, v)
      | none => none) := by
  rw [txidHash_eq]
  unfold getByTxid
  simp only [unspent_OutputSet_GetByTxid_0]
  by_cases hl : txid.length = 64
  · by_cases h0 : size s = 0
    · simp only [hl, h0]
      cases hexDecode txid <;> simp [size_eq_zero_lookup h0]
    · have : ¬ ((size s : Int) = 0) := by omega
      simp only [hl, this]
      cases hexDecode txid <;> simp [getByOutpoint_some]
  · have : ((txid.length : Int) ≠ 64) := by omega
    simp [hl, this]

theorem hasSize_size {s : State} (h : Distinct s) : Spec.Utxo.HasSize (abs s) (size s) :=
  ⟨keys (entries s), h, fun k => by simp [abs, lookup_isSome_iff], by simp [size, keys]⟩

theorem keyNat_eq (k : PrevOut) : keyNat k = Spec.Utxo.keyNat k := rfl

theorem lists_slice {s : State} (h : Distinct s) : Spec.Utxo.Lists (abs s) (slice s) := by
  have hp : (slice s).Perm (entries s) := List.mergeSort_perm _ _
  refine ⟨fun k v => ?_, ?_, ?_⟩
  · rw [hp.mem_iff]; exact (lookup_eq_some_iff h k v).symm
  · exact (hp.map Prod.fst).nodup_iff.mpr h
  · have := List.pairwise_mergeSort (le := entryLe)
      (fun a b c hab hbc => by simp only [entryLe, decide_eq_true_eq] at *; omega)
      (fun a b => by simp only [entryLe, Bool.or_eq_true, decide_eq_true_eq]; omega) (entries s)
    exact this.imp (fun {a b} hab => show keyNat a.1 ≤ keyNat b.1 by simpa [entryLe] using hab)

theorem foldl_put_apply {l : List Entry} (h : (keys l).Nodup) (σ : Spec.Utxo.USet) (k : PrevOut) :
    (l.foldl (fun σ e => Spec.Utxo.put σ e.1 e.2) σ) k =
      match lookup k l with
      | some v => some v
      | none => σ k := by
  induction l generalizing σ with
  | nil => rfl
  | cons e rest ih =>
    simp only [keys_cons, List.nodup_cons] at h
    simp only [List.foldl_cons, ih h.2, lookup]
    by_cases h1 : e.1 = k
    · simp [lookup_eq_none (h1 ▸ h.1), h1, Spec.Utxo.put]
    · have : ¬ k = e.1 := fun h' => h1 h'.symm
      simp [h1, Spec.Utxo.put, this]

theorem abs_foldl_add (l : List Entry) (s : State) :
    abs (l.foldl (fun acc e => (addOutput acc (some e.1) e.2).1) s) =
      l.foldl (fun σ e => Spec.Utxo.put σ e.1 e.2) (abs s) := by
  induction l generalizing s with
  | nil => rfl
  | cons e rest ih => simp only [List.foldl_cons, ih, abs_addOutput]

theorem abs_clone {s : State} (h : Distinct s) : abs (clone s) = abs s := by
  funext k
  unfold clone
  rw [abs_foldl_add, foldl_put_apply h]
  show (match lookup k (entries s) with | some v => some v | none => abs none k) = lookup k (entries s)
  cases hl : lookup k (entries s) <;> simp [abs, entries, lookup]

theorem newOutputSet_some (outs : List Entry) :
    newOutputSet (outs.map fun e => (some e.1, e.2)) =
      (outs.foldl (fun acc e => (addOutput acc (some e.1) e.2).1) none, .unit) := by
  unfold newOutputSet
  generalize (none : State) = s
  induction outs generalizing s with
  | nil => rfl
  | cons e rest ih =>
    simp only [List.map_cons, List.foldl_cons]
    rw [addOutput_some]
    exact ih _

theorem abs_newOutputSet (outs : List Entry) :
    abs (newOutputSet (outs.map fun e => (some e.1, e.2))).1 = Spec.Utxo.ofList outs := by
  rw [newOutputSet_some, abs_foldl_add]; rfl

theorem spendAll_eq (s : State) (ins : List TxIn) :
    spendAll s ins = ins.foldl (fun acc i => acc.map (erase i.prev)) s := by
  unfold spendAll
  induction ins generalizing s with
  | nil => rfl
  | cons i rest ih => simp only [List.foldl_cons, removeByOutpoint_some, ih]

theorem abs_spendAll (s : State) (ins : List TxIn) (k : PrevOut) :
    abs (spendAll s ins) k = if (∃ i ∈ ins, i.prev = k) then none else abs s k := by
  rw [spendAll_eq]
  induction ins generalizing s with
  | nil => simp
  | cons i rest ih =>
    simp only [List.foldl_cons, ih, abs_erase, Spec.Utxo.del, List.mem_cons, exists_eq_or_imp]
    by_cases h1 : ∃ i ∈ rest, i.prev = k
    · simp [h1]
    · by_cases h2 : i.prev = k
      · simp [h2]
      · have : ¬ k = i.prev := fun h => h2 h.symm
        simp [h1, h2, this]

theorem addMatching_spec (hash : Bytes) (idx : Nat) (hidx : idx < 4294967296) (o : TxOut) (W : List Bytes)
    (s : State) :
    ∃ s', addMatching (some hash) idx o W s = (s', true) ∧
      ∀ k, abs s' k = if k = ⟨hash, idx⟩ ∧ o.script ∈ W then some o else abs s k := by
  induction W generalizing s with
  | nil => exact ⟨s, rfl, fun k => by simp⟩
  | cons spk rest ih =>
    unfold addMatching
    simp only [unspent_OutputSet_UpdateFromBlock_0, decide_eq_true_eq]
    by_cases hm : o.script = spk
    · obtain ⟨s', e, h⟩ := ih (addOutput s (some ⟨hash, idx % 4294967296⟩) ⟨o.value, spk⟩).1
      refine ⟨s', by rw [if_pos hm, e], fun k => ?_⟩
      rw [h, abs_addOutput, Nat.mod_eq_of_lt hidx, ← hm]
      by_cases hk : k = ⟨hash, idx⟩ <;> simp [hk, Spec.Utxo.put]
    · obtain ⟨s', e, h⟩ := ih s
      refine ⟨s', by rw [if_neg hm, e], fun k => ?_⟩
      simp only [h, List.mem_cons, hm, false_or]

/-- the output of index `k.index` among `os` (whose head has index `idx`) when it pays a watched script -/
def createdFrom (hash : Bytes) (W : List Bytes) (idx : Nat) (os : List TxOut) (k : PrevOut) : Option TxOut :=
  if k.hash = hash ∧ idx ≤ k.index then
    match os[k.index - idx]? with
    | some o => if o.script ∈ W then some o else none
    | none => none
  else none

theorem createdFrom_cons (hash : Bytes) (W : List Bytes) (idx : Nat) (o : TxOut) (os : List TxOut) (k : PrevOut) :
    createdFrom hash W idx (o :: os) k =
      if k = ⟨hash, idx⟩ then (if o.script ∈ W then some o else none)
      else createdFrom hash W (idx + 1) os k := by
  unfold createdFrom
  by_cases hk : k = ⟨hash, idx⟩
  · subst hk; simp
  · rw [if_neg hk]
    by_cases hh : k.hash = hash ∧ idx ≤ k.index
    · have he : k.index ≠ idx := fun he => hk (by cases k; cases hh.1; cases he; rfl)
      rw [if_pos hh, if_pos ⟨hh.1, by omega⟩, show k.index - idx = (k.index - (idx + 1)) + 1 by omega,
        List.getElem?_cons_succ]
    · rw [if_neg hh, if_neg (fun h => hh ⟨h.1, by omega⟩)]

theorem addOutputs_spec (hash : Bytes) (W : List Bytes) (idx : Nat) (os : List TxOut)
    (hlen : idx + os.length ≤ 4294967296) (s : State) :
    ∃ s', addOutputs (some hash) W idx os s = (s', true) ∧
      ∀ k, abs s' k =
        match createdFrom hash W idx os k with
        | some o => some o
        | none => abs s k := by
  induction os generalizing idx s with
  | nil => exact ⟨s, rfl, fun k => by simp [createdFrom]⟩
  | cons o rest ih =>
    simp only [List.length_cons] at hlen
    obtain ⟨s1, e1, h1⟩ := addMatching_spec hash idx (by omega) o W s
    obtain ⟨s2, e2, h2⟩ := ih (idx + 1) (by omega) s1
    refine ⟨s2, by rw [addOutputs, e1]; exact e2, fun k => ?_⟩
    rw [h2, h1, createdFrom_cons]
    by_cases hk : k = ⟨hash, idx⟩
    · -- the later outputs have larger indices
      have : createdFrom hash W (idx + 1) rest ⟨hash, idx⟩ = none := if_neg (fun h => Nat.not_succ_le_self idx h.2)
      subst hk
      rw [this]
      by_cases hw : o.script ∈ W <;> simp [hw]
    · simp [hk]

theorem createdFrom_zero (H : Tx → Bytes) (W : List Bytes) (t : Tx) (k : PrevOut) :
    createdFrom (H t) W 0 t.outputs k = Spec.Utxo.created H W t k := by
  simp only [createdFrom, Spec.Utxo.created, Nat.zero_le, and_true, Nat.sub_zero]
  rfl

theorem applyTx_spec (txidOf : Tx → Option Bytes) (H : Tx → Bytes) (W : List Bytes) (s : State) (t : Tx)
    (hH : txidOf t = some (H t)) (hlen : t.outputs.length ≤ 4294967296) :
    ∃ s', applyTx txidOf W s t = (s', true) ∧ abs s' = Spec.Utxo.applyTx H W (abs s) t := by
  obtain ⟨s', e, h⟩ := addOutputs_spec (H t) W 0 t.outputs (by omega) (spendAll s t.inputs)
  refine ⟨s', by rw [applyTx, hH, e], funext fun k => ?_⟩
  rw [h, createdFrom_zero, abs_spendAll]
  rfl

theorem applyTxs_spec (txidOf : Tx → Option Bytes) (H : Tx → Bytes) (W : List Bytes) (txs : List Tx) (s : State)
    (hH : ∀ t ∈ txs, txidOf t = some (H t) ∧ t.outputs.length ≤ 4294967296) :
    ∃ s', applyTxs txidOf W txs s = (s', true) ∧ abs s' = Spec.Utxo.applyBlock H W (abs s) txs := by
  induction txs generalizing s with
  | nil => exact ⟨s, rfl, rfl⟩
  | cons t rest ih =>
    obtain ⟨s1, e1, h1⟩ := applyTx_spec txidOf H W s t (hH t (by simp)).1 (hH t (by simp)).2
    obtain ⟨s2, e2, h2⟩ := ih s1 (fun t ht => hH t (by simp [ht]))
    exact ⟨s2, by rw [applyTxs, e1]; exact e2, by rw [h2, h1]; rfl⟩

/-! ### every operation keeps the keys distinct (nil pointers and failing hashes included) -/

theorem distinct_none : Distinct none := List.nodup_nil

theorem distinct_addOutput {s : State} (o : Option PrevOut) (v : TxOut) (h : Distinct s) :
    Distinct (addOutput s o v).1 := by
  cases o with
  | none => rw [addOutput_none]; exact h
  | some k => rw [addOutput_some]; exact nodup_insert k v h

theorem distinct_map_erase {s : State} (k : PrevOut) (h : Distinct s) : Distinct (s.map (erase k)) := by
  unfold Distinct; rw [entries_map_erase]; exact nodup_erase k h

theorem distinct_removeByOutpoint {s : State} (o : Option PrevOut) (h : Distinct s) :
    Distinct (removeByOutpoint s o).1 := by
  cases o with
  | none => rw [removeByOutpoint_none]; exact h
  | some k => rw [removeByOutpoint_some]; exact distinct_map_erase k h

theorem distinct_spendAll {s : State} (ins : List TxIn) (h : Distinct s) : Distinct (spendAll s ins) :=
  List.foldlRecOn ins _ h (fun _ hs _ _ => distinct_removeByOutpoint _ hs)

theorem distinct_clone {s : State} : Distinct (clone s) :=
  List.foldlRecOn (entries s) _ distinct_none (fun _ hs _ _ => distinct_addOutput _ _ hs)

theorem distinct_newOutputSet (outs : List (Option PrevOut × TxOut)) : Distinct (newOutputSet outs).1 :=
  List.foldlRecOn (motive := fun acc : State × Out => Distinct acc.1) outs _ distinct_none
    (fun acc h o _ => by split; exact distinct_addOutput _ _ h; exact h)

theorem distinct_addMatching (h : Option Bytes) (idx : Nat) (o : TxOut) (W : List Bytes) {s : State}
    (hs : Distinct s) : Distinct (addMatching h idx o W s).1 := by
  fun_induction addMatching h idx o W s with
  | case1 s => exact hs
  | case2 spk rest s _ hash hh ih => subst hh; exact ih (distinct_addOutput _ _ hs)
  | case3 spk rest s _ _ => exact hs
  | case4 spk rest s _ ih => exact ih hs

theorem distinct_addOutputs (h : Option Bytes) (W : List Bytes) (idx : Nat) (os : List TxOut) {s : State}
    (hs : Distinct s) : Distinct (addOutputs h W idx os s).1 := by
  fun_induction addOutputs h W idx os s with
  | case1 _ s => exact hs
  | case2 idx o os s s' heq ih => exact ih (by simpa [heq] using distinct_addMatching h idx o W hs)
  | case3 idx o os s s' heq => simpa [heq] using distinct_addMatching h idx o W hs

theorem distinct_applyTx (txidOf : Tx → Option Bytes) (W : List Bytes) {s : State} (t : Tx)
    (hs : Distinct s) : Distinct (applyTx txidOf W s t).1 :=
  distinct_addOutputs _ _ _ _ (distinct_spendAll _ hs)

theorem distinct_applyTxs (txidOf : Tx → Option Bytes) (W : List Bytes) (txs : List Tx) {s : State}
    (hs : Distinct s) : Distinct (applyTxs txidOf W txs s).1 := by
  fun_induction applyTxs txidOf W txs s with
  | case1 s => exact hs
  | case2 t ts s s' heq ih => exact ih (by simpa [heq] using distinct_applyTx txidOf W t hs)
  | case3 t ts s s' heq => simpa [heq] using distinct_applyTx txidOf W t hs

theorem distinct_step (txidOf : Tx → Option Bytes) {s : State} (op : Op) (hs : Distinct s) :
    Distinct (step txidOf s op).1 := by
  cases op with
  | add o v => exact distinct_addOutput o v hs
  | removeByOutpoint o => exact distinct_removeByOutpoint o hs
  | removeByHash h i => simp only [step, removeByHash_eq]; exact distinct_map_erase _ hs
  | removeByTxid t i =>
    simp only [step, removeByTxid_eq]
    cases Spec.Utxo.txidHash t with
    | none => exact hs
    | some h => exact distinct_map_erase _ hs
  | getByOutpoint _ | getByHash _ _ | getByTxid _ _ | size | slice => exact hs
  | clone => exact distinct_clone
  | new outs => exact distinct_newOutputSet outs
  | updateFromBlock b w =>
    have := distinct_applyTxs txidOf w b.txs hs
    simp only [step, updateFromBlock]
    split <;> (rename_i s' heq; rw [heq] at this; exact this)

theorem distinct_run (txidOf : Tx → Option Bytes) (ops : List Op) {s : State} (hs : Distinct s) :
    Distinct (run txidOf s ops).1 := by
  induction ops generalizing s with
  | nil => exact hs
  | cons op rest ih => exact ih (distinct_step txidOf op hs)

/-- two lists related element by element (core Lean has no such relation, and this file imports neither
    Batteries nor Mathlib; `Proofs.Bip39.All₂` is the same inductive) -/
inductive Forall2 {α β : Type} (R : α → β → Prop) : List α → List β → Prop
  | nil : Forall2 R [] []
  | cons {a b l₁ l₂} : R a b → Forall2 R l₁ l₂ → Forall2 R (a :: l₁) (b :: l₂)

/-- model operation ↔ reference operation (operations without nil pointers) -/
inductive Matches : Op → Spec.Utxo.Op → Prop
  | add (k v) : Matches (.add (some k) v) (.add k v)
  | removeByOutpoint (k) : Matches (.removeByOutpoint (some k)) (.removeByOutpoint k)
  | removeByHash (h i) : Matches (.removeByHash h i) (.removeByHash h i)
  | removeByTxid (t i) : Matches (.removeByTxid t i) (.removeByTxid t i)
  | getByOutpoint (k) : Matches (.getByOutpoint (some k)) (.getByOutpoint k)
  | getByHash (h i) : Matches (.getByHash h i) (.getByHash h i)
  | getByTxid (t i) : Matches (.getByTxid t i) (.getByTxid t i)
  | size : Matches .size .size
  | slice : Matches .slice .slice
  | clone : Matches .clone .clone
  | new (outs : List Entry) : Matches (.new (outs.map fun e => (some e.1, e.2))) (.new outs)
  | updateFromBlock (b w) : Matches (.updateFromBlock b w) (.updateFromBlock b w)

def specRes : Out → Option Spec.Utxo.Res
  | .unit => some .none
  | .found e => some (.found e)
  | .size n => some (.size n)
  | .list l => some (.list l)
  | .panic => none
  | .err => none

/-- every transaction of a block update hashes to `H t` and has at most 2^32 outputs: `UpdateFromBlock`
    stores output `i` under `uint32(i)` (`idx % 4294967296` in `Model.Utxo.addMatching`) -/
def BlockOK (txidOf : Tx → Option Bytes) (H : Tx → Bytes) : Op → Prop
  | .updateFromBlock b _ => ∀ t ∈ b.txs, txidOf t = some (H t) ∧ t.outputs.length ≤ 4294967296
  | _ => True

theorem step_refines (txidOf : Tx → Option Bytes) (H : Tx → Bytes) {s : State} {op : Op} {sop : Spec.Utxo.Op}
    (hs : Distinct s) (hm : Matches op sop) (hb : BlockOK txidOf H op) :
    ∃ r, specRes (step txidOf s op).2 = some r ∧
      Spec.Utxo.Step H (abs s) sop (abs (step txidOf s op).1) r := by
  cases hm <;> simp only [step]
  case add k v => exact ⟨.none, by rw [addOutput_some]; rfl, abs_addOutput s k v, rfl⟩
  case removeByOutpoint k =>
    rw [removeByOutpoint_some]
    exact ⟨.none, rfl, abs_erase s k, rfl⟩
  case removeByHash h i =>
    rw [removeByHash_eq]
    exact ⟨.none, rfl, abs_erase s _, rfl⟩
  case removeByTxid t i =>
    rw [removeByTxid_eq]
    refine ⟨.none, rfl, ?_, rfl⟩
    cases Spec.Utxo.txidHash t <;> simp only [abs_erase]
  case getByOutpoint k => exact ⟨_, by rw [getByOutpoint_some]; rfl, rfl, rfl⟩
  case getByHash h i => exact ⟨_, by rw [getByHash, getByOutpoint_some]; rfl, rfl, rfl⟩
  case getByTxid t i =>
    refine ⟨_, by rw [getByTxid_eq]; rfl, rfl, ?_⟩
    cases Spec.Utxo.txidHash t <;> rfl
  case size => exact ⟨_, rfl, rfl, _, rfl, hasSize_size hs⟩
  case slice => exact ⟨_, rfl, rfl, _, rfl, lists_slice hs⟩
  case clone => exact ⟨.none, rfl, abs_clone hs, rfl⟩
  case new outs => exact ⟨.none, by rw [newOutputSet_some]; rfl, abs_newOutputSet outs, rfl⟩
  case updateFromBlock b w =>
    obtain ⟨s', e, h⟩ := applyTxs_spec txidOf H w b.txs s hb
    rw [updateFromBlock, e]
    exact ⟨.none, rfl, h, rfl⟩

theorem run_refines (txidOf : Tx → Option Bytes) (H : Tx → Bytes) {ops : List Op} {sops : List Spec.Utxo.Op}
    (hm : Forall2 Matches ops sops) (hb : ∀ op ∈ ops, BlockOK txidOf H op) {s : State} (hs : Distinct s) :
    ∃ rs, Forall2 (fun o r => specRes o = some r) (run txidOf s ops).2 rs ∧
      Spec.Utxo.Run H (abs s) sops (abs (run txidOf s ops).1) rs := by
  induction hm generalizing s with
  | nil => exact ⟨[], .nil, .nil _⟩
  | @cons op sop ops' sops' h1 _ ih =>
    obtain ⟨r, hr1, hr2⟩ := step_refines txidOf H hs h1 (hb op (by simp))
    obtain ⟨rs, hrs1, hrs2⟩ := ih (fun op' h' => hb op' (by simp [h'])) (distinct_step txidOf op hs)
    exact ⟨r :: rs, .cons hr1 hrs1, .cons hr2 hrs2⟩

open Spec.Utxo in
theorem created_eq_some_iff (H : Tx → Bytes) (W : List Bytes) (t : Tx) (k : PrevOut) (o : TxOut) :
    created H W t k = some o ↔ creates H W t k o := by
  unfold created creates
  by_cases hh : k.hash = H t
  · rw [if_pos hh]
    cases t.outputs[k.index]? with
    | none => simp
    | some o' =>
      by_cases hw : o'.script ∈ W
      · simp only [hw, if_true, Option.some.injEq, hh, true_and]
        exact ⟨fun h => h ▸ ⟨rfl, hw⟩, fun h => h.1⟩
      · simp only [hw, if_false, Option.some.injEq, hh, true_and, reduceCtorEq, false_iff]
        rintro ⟨rfl, h2⟩
        exact hw h2
  · simp [hh]

open Spec.Utxo in
theorem created_eq_none_iff (H : Tx → Bytes) (W : List Bytes) (t : Tx) (k : PrevOut) :
    created H W t k = none ↔ ¬ ∃ o, creates H W t k o := by
  rw [Option.eq_none_iff_forall_ne_some, not_exists]
  exact forall_congr' fun o => not_congr (created_eq_some_iff H W t k o)

open Spec.Utxo in
theorem applyTx_untouched {H : Tx → Bytes} {W : List Bytes} {t : Tx} {k : PrevOut} (σ : USet)
    (h : ¬ touches H W t k) : Spec.Utxo.applyTx H W σ t k = σ k := by
  have h1 : created H W t k = none := (created_eq_none_iff H W t k).mpr (fun hc => h (Or.inr hc))
  have h2 : ¬ spends t k := fun hc => h (Or.inl hc)
  simp [Spec.Utxo.applyTx, h1, h2]

open Spec.Utxo in
theorem applyBlock_cons (H : Tx → Bytes) (W : List Bytes) (σ : USet) (t : Tx) (ts : List Tx) :
    applyBlock H W σ (t :: ts) = applyBlock H W (Spec.Utxo.applyTx H W σ t) ts := rfl

open Spec.Utxo in
theorem applyBlock_untouched {H : Tx → Bytes} {W : List Bytes} {k : PrevOut} (txs : List Tx) (σ : USet)
    (h : ∀ t ∈ txs, ¬ touches H W t k) : applyBlock H W σ txs k = σ k := by
  induction txs generalizing σ with
  | nil => rfl
  | cons t rest ih =>
    rw [applyBlock_cons, ih _ (fun t' ht' => h t' (by simp [ht'])), applyTx_untouched σ (h t (by simp))]

open Spec.Utxo in
theorem applyTx_declarative (H : Tx → Bytes) (W : List Bytes) (σ : USet) (t : Tx) (k : PrevOut) (o : TxOut) :
    Spec.Utxo.applyTx H W σ t k = some o ↔ creates H W t k o ∨ (σ k = some o ∧ ¬ touches H W t k) := by
  unfold Spec.Utxo.applyTx touches
  cases hc : created H W t k with
  | some o' =>
    have hc' := (created_eq_some_iff H W t k o').mp hc
    simp only [← created_eq_some_iff, hc, Option.some.injEq]
    exact ⟨Or.inl, fun h => h.elim id (fun h => absurd (Or.inr ⟨o', rfl⟩) h.2)⟩
  | none =>
    simp only [← created_eq_some_iff, hc, reduceCtorEq, false_or, exists_false, or_false]
    by_cases hsp : spends t k <;> simp [hsp]

theorem exists_split_cons {α : Type} (P : α → List α → Prop) (a : α) (l : List α) :
    (∃ pre x post, a :: l = pre ++ x :: post ∧ P x post) ↔
      P a l ∨ ∃ pre x post, l = pre ++ x :: post ∧ P x post := by
  constructor
  · rintro ⟨pre, x, post, h, hp⟩
    cases pre with
    | nil =>
      obtain ⟨rfl, rfl⟩ := List.cons.inj h
      exact Or.inl hp
    | cons b pre' => exact Or.inr ⟨pre', x, post, (List.cons.inj h).2, hp⟩
  · rintro (hp | ⟨pre, x, post, rfl, hp⟩)
    · exact ⟨[], a, l, rfl, hp⟩
    · exact ⟨a :: pre, x, post, rfl, hp⟩

open Spec.Utxo in
theorem applyBlock_append (H : Tx → Bytes) (W : List Bytes) (a b : List Tx) (σ : USet) :
    applyBlock H W σ (a ++ b) = applyBlock H W (applyBlock H W σ a) b :=
  List.foldl_append

open Spec.Utxo in
theorem applyBlock_none {H : Tx → Bytes} {W : List Bytes} {k : PrevOut} (txs : List Tx) (σ : USet)
    (h0 : σ k = none) (h : ∀ t ∈ txs, ¬ ∃ o, creates H W t k o) : applyBlock H W σ txs k = none := by
  induction txs generalizing σ with
  | nil => exact h0
  | cons t rest ih =>
    have hc := (created_eq_none_iff H W t k).mpr (h t List.mem_cons_self)
    refine ih _ ?_ (fun t' ht' => h t' (List.mem_cons_of_mem t ht'))
    simp [Spec.Utxo.applyTx, hc, h0]

open Spec.Utxo in
theorem spent_in_block_disappears (H : Tx → Bytes) (W : List Bytes) (pre post : List Tx) (t2 : Tx)
    (σ : USet) (k : PrevOut) (hsp : spends t2 k)
    (hno : ∀ t ∈ t2 :: post, ¬ ∃ o, creates H W t k o) :
    applyBlock H W σ (pre ++ t2 :: post) k = none := by
  rw [applyBlock_append, applyBlock_cons]
  apply applyBlock_none _ _ _ (fun t' ht' => hno t' (by simp [ht']))
  have hc := (created_eq_none_iff H W t2 k).mpr (hno t2 (by simp))
  simp [Spec.Utxo.applyTx, hc, hsp]

end BtcVerif.Proofs.Utxo
