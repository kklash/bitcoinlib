import BtcVerif.Model.HB

/-! Data-race freedom from the three disciplines of the access table in the happens-before model, and what the
    table's evaluation says about the executions its rows describe. -/
namespace BtcVerif.Model.HB

def RaceOn (t : Trace) (x : Nat) : Prop :=
  ∃ (i j : Nat) (a b : Event), i < j ∧ t[i]? = some a ∧ t[j]? = some b ∧ conflicting a b = true ∧ a.obj = x ∧ ¬ HB t i j

theorem race_iff (t : Trace) : Race t ↔ ∃ x, RaceOn t x := by
  constructor
  · rintro ⟨i, j, a, b, h1, h2, h3, h4, h5⟩
    exact ⟨a.obj, i, j, a, b, h1, h2, h3, h4, rfl, h5⟩
  · rintro ⟨x, i, j, a, b, h1, h2, h3, h4, _, h5⟩
    exact ⟨i, j, a, b, h1, h2, h3, h4, h5⟩

theorem conflicting_facts {a b : Event} (h : conflicting a b = true) :
    (a.kind = .read ∨ a.kind = .write) ∧ (b.kind = .read ∨ b.kind = .write) ∧ a.obj = b.obj ∧
    (a.kind = .write ∨ b.kind = .write) ∧ a.tid ≠ b.tid := by
  unfold conflicting at h
  simp only [Bool.and_eq_true, Bool.or_eq_true, beq_iff_eq, bne_iff_ne, ne_eq] at h
  obtain ⟨⟨⟨⟨h1, h2⟩, h3⟩, h4⟩, h5⟩ := h
  exact ⟨h1, h2, h3, h4, h5⟩

/-- the three kinds of direct edge: program order, initialisation first, mutex hand-over -/
theorem edge_iff {t : Trace} {i j : Nat} : edge t i j = true ↔ ∃ a b, t[i]? = some a ∧ t[j]? = some b ∧ i < j ∧
    (a.tid = b.tid ∨ (a.tid = 0 ∧ b.tid ≠ 0) ∨ (a.kind = .unlock ∧ b.kind = .lock ∧ a.obj = b.obj)) := by
  unfold edge
  split
  · rename_i a b ha hb
    simp [ha, hb, or_assoc, and_assoc]
  · rename_i hne
    simp only [Bool.false_eq_true, false_iff]
    rintro ⟨a, b, ha, hb, _⟩
    exact hne a b ha hb

/-- **discipline (a)**: a location written only during initialisation is race-free for any number
    of goroutines and any interleaving -/
theorem init_only_race_free (t : Trace) (x : Nat) (hf : InitFirst t) (hx : InitOnly t x) : ¬ RaceOn t x := by
  rintro ⟨i, j, a, b, hlt, hi, hj, hc, hax, hn⟩
  obtain ⟨_, _, hobj, hw, htid⟩ := conflicting_facts hc
  rcases hw with hw | hw
  · have ha0 := hx i a hi hw hax
    exact hn (.step (edge_iff.mpr ⟨a, b, hi, hj, hlt, .inr (.inl ⟨ha0, fun h => htid (ha0.trans h.symm)⟩)⟩))
  · have hb0 := hx j b hj hw (hobj ▸ hax)
    have ha0 := hf i j a b hlt hi hj hb0
    exact htid (by rw [ha0, hb0])

theorem holder_succ_of_not_m {t : Trace} {m n : Nat} {e : Event} (he : t[n]? = some e)
    (h : ¬ (e.obj = m ∧ (e.kind = .lock ∨ e.kind = .unlock))) : holder t m (n + 1) = holder t m n := by
  simp only [holder, he]
  split
  · rename_i h1; exact absurd ⟨h1.1, Or.inl h1.2⟩ h
  · split
    · rename_i h2; exact absurd ⟨h2.1, Or.inr h2.2⟩ h
    · rfl

theorem holder_succ (t : Trace) (m n : Nat) :
    (∃ e, t[n]? = some e ∧ e.obj = m ∧ e.kind = .lock ∧ holder t m (n + 1) = some e.tid) ∨
    (∃ e, t[n]? = some e ∧ e.obj = m ∧ e.kind = .unlock ∧ holder t m (n + 1) = none) ∨
    holder t m (n + 1) = holder t m n := by
  cases he : t[n]? with
  | none => exact .inr (.inr (by simp only [holder, he]))
  | some e =>
    by_cases hl : e.obj = m ∧ e.kind = .lock
    · exact .inl ⟨e, rfl, hl.1, hl.2, by simp only [holder, he, hl, and_self, if_true]⟩
    · by_cases hu : e.obj = m ∧ e.kind = .unlock
      · exact .inr (.inl ⟨e, rfl, hu.1, hu.2, by simp only [holder, he, hu, true_and, reduceCtorEq, if_false, if_true]⟩)
      · exact .inr (.inr (holder_succ_of_not_m he fun ⟨ho, hk⟩ => hk.elim (fun hk => hl ⟨ho, hk⟩) fun hk => hu ⟨ho, hk⟩))

theorem unlock_between (t : Trace) (m a i : Nat) (hm : MutexOk t) :
    ∀ d, holder t m i = some a → holder t m (i + d) ≠ some a →
      ∃ k e, i ≤ k ∧ k < i + d ∧ t[k]? = some e ∧ e.kind = .unlock ∧ e.obj = m ∧ e.tid = a := by
  intro d
  induction d with
  | zero => intro h1 h2; exact absurd h1 h2
  | succ d ih =>
    intro h1 h2
    by_cases h3 : holder t m (i + d) = some a
    · -- the change happens at step i+d; by `MutexOk` it is not a lock (`m` is held) and an unlock is `a`'s
      rcases holder_succ t m (i + d) with ⟨e, he, ho, hk, _⟩ | ⟨e, he, ho, hk, _⟩ | hs
      · have := (hm (i + d) e he).1 hk
        rw [ho, h3] at this; cases this
      · have := (hm (i + d) e he).2 hk
        rw [ho, h3] at this
        exact ⟨i + d, e, by omega, by omega, he, hk, ho, (Option.some.inj this).symm⟩
      · exact absurd (hs.trans h3) h2
    · obtain ⟨k, e, hk1, hk2, r⟩ := ih h1 h3
      exact ⟨k, e, hk1, by omega, r⟩

theorem lock_before (t : Trace) (m b : Nat) :
    ∀ j, holder t m j = some b →
      ∃ l e, l < j ∧ t[l]? = some e ∧ e.kind = .lock ∧ e.obj = m ∧ e.tid = b ∧
        ∀ n, l < n → n ≤ j → holder t m n = some b := by
  intro j
  induction j with
  | zero => intro h; cases h
  | succ j ih =>
    intro h
    rcases holder_succ t m j with ⟨e, he, ho, hk, hs⟩ | ⟨e, _, _, _, hs⟩ | hs
    · refine ⟨j, e, by omega, he, hk, ho, Option.some.inj (hs.symm.trans h), ?_⟩
      intro n hn1 hn2
      rw [show n = j + 1 by omega]; exact h
    · rw [hs] at h; cases h
    · obtain ⟨l, e, hl, r1, r2, r3, r4, r5⟩ := ih (hs.symm.trans h)
      refine ⟨l, e, by omega, r1, r2, r3, r4, ?_⟩
      intro n hn1 hn2
      by_cases hn : n = j + 1
      · rw [hn]; exact h
      · exact r5 n hn1 (by omega)

theorem lock_between {t : Trace} {m i j a b : Nat} {e : Event} (hm : MutexOk t) (hlt : i < j)
    (hi : t[i]? = some e) (hk : e.kind ≠ .lock) (hab : a ≠ b)
    (hha : holder t m i = some a) (hhb : holder t m j = some b) :
    ∃ l el, i < l ∧ l < j ∧ t[l]? = some el ∧ el.kind = .lock ∧ el.obj = m ∧ el.tid = b ∧ holder t m l = none := by
  obtain ⟨l, el, hlj, hel, hlk, hlo, hlt', hheld⟩ := lock_before t m b j hhb
  refine ⟨l, el, Nat.lt_of_le_of_ne (Nat.le_of_not_lt fun h => ?_) fun h => ?_, hlj, hel, hlk, hlo, hlt',
    hlo ▸ (hm l el hel).1 hlk⟩
  · -- from its lock on, `b` holds `m`
    exact hab (Option.some.inj (hha.symm.trans (hheld i h (Nat.le_of_lt hlt))))
  · subst h; rw [hi] at hel; obtain rfl := Option.some.inj hel; exact hk hlk

/-- accesses made by different threads while holding the same mutex are ordered: the earlier thread's
    unlock happens before the later thread's lock -/
theorem hb_of_held {t : Trace} {m i j : Nat} {a b : Event} (hm : MutexOk t) (hlt : i < j)
    (hi : t[i]? = some a) (hj : t[j]? = some b) (hka : a.kind = .read ∨ a.kind = .write)
    (htid : a.tid ≠ b.tid) (hha : holder t m i = some a.tid) (hhb : holder t m j = some b.tid) :
    HB t i j := by
  have hacc : a.kind ≠ .lock ∧ a.kind ≠ .unlock := by
    rcases hka with h | h <;> rw [h] <;> exact ⟨nofun, nofun⟩
  obtain ⟨l, el, hil, hlj, hel, hlk, hlo, hlt', hfree⟩ := lock_between hm hlt hi hacc.1 htid hha hhb
  -- so `a` has unlocked `m` before `l`, and after `i` since the event at `i` is no unlock
  obtain ⟨k, ek, hk1, hk2, hek, hku, hko, hkt⟩ := unlock_between t m a.tid i hm (l - i) hha
    (by rw [Nat.add_sub_cancel' (Nat.le_of_lt hil), hfree]; exact nofun)
  have hik : i < k := Nat.lt_of_le_of_ne hk1 fun h => by
    subst h; rw [hi] at hek; obtain rfl := Option.some.inj hek; exact hacc.2 hku
  exact .trans (.trans (.step (edge_iff.mpr ⟨a, ek, hi, hek, hik, .inl hkt.symm⟩))
    (.step (edge_iff.mpr ⟨ek, el, hek, hel, by omega, .inr (.inr ⟨hku, hlk, hko.trans hlo.symm⟩)⟩)))
    (.step (edge_iff.mpr ⟨el, b, hel, hj, hlj, .inl hlt'⟩))

/-- **discipline (b)**: a location all of whose post-initialisation accesses are made under one
    mutex is race-free for any number of goroutines and any interleaving -/
theorem guarded_race_free (t : Trace) (x m : Nat) (hf : InitFirst t) (hm : MutexOk t)
    (hg : GuardedBy t x m) : ¬ RaceOn t x := by
  rintro ⟨i, j, a, b, hlt, hi, hj, hc, hax, hn⟩
  obtain ⟨hka, hkb, hobj, _, htid⟩ := conflicting_facts hc
  by_cases ha0 : a.tid = 0
  · exact hn (.step (edge_iff.mpr ⟨a, b, hi, hj, hlt, .inr (.inl ⟨ha0, fun h => htid (ha0.trans h.symm)⟩)⟩))
  · have hb0 : b.tid ≠ 0 := fun hb0 => ha0 (hf i j a b hlt hi hj hb0)
    exact hn (hb_of_held hm hlt hi hj hka htid (hg i a hi hka hax ha0) (hg j b hj hkb (hobj ▸ hax) hb0))

/-! ### the lazy-initialisation pattern `if c.params == nil { c.params = … }` -/

/-- events produced by one call to the lazily initialising accessor by thread `tid`, given whether
    the field is already set: a read of the field, and a write when it was nil -/
def lazyCall (tid x : Nat) (isSet : Bool) : List Event :=
  if isSet then [⟨tid, .read, x⟩] else [⟨tid, .read, x⟩, ⟨tid, .write, x⟩]

/-- the D21 witness: two goroutines both see nil on their cold first call; the two writes race -/
def coldStartTrace : Trace := [⟨1, .read, 7⟩, ⟨2, .read, 7⟩, ⟨1, .write, 7⟩, ⟨2, .write, 7⟩]

theorem hb_lt {t : Trace} {i j : Nat} (h : HB t i j) : i < j := by
  induction h with
  | step h => obtain ⟨_, _, _, _, hlt, _⟩ := edge_iff.mp h; exact hlt
  | trans _ _ ih1 ih2 => omega

theorem hb_same_tid (t : Trace) (hno : ∀ e ∈ t, e.tid ≠ 0 ∧ e.kind ≠ .unlock)
    {i j : Nat} (h : HB t i j) : ∃ a b, t[i]? = some a ∧ t[j]? = some b ∧ a.tid = b.tid := by
  induction h with
  | step h =>
    obtain ⟨a, b, ha, hb, _, h | h | h⟩ := edge_iff.mp h
    · exact ⟨a, b, ha, hb, h⟩
    · exact absurd h.1 (hno a (List.mem_of_getElem? ha)).1
    · exact absurd h.1 (hno a (List.mem_of_getElem? ha)).2
  | trans _ _ ih1 ih2 =>
    obtain ⟨a, b, ha, hb, hab⟩ := ih1
    obtain ⟨b', c, hb', hc, hbc⟩ := ih2
    obtain rfl := Option.some.inj (hb.symm.trans hb')
    exact ⟨a, c, ha, hc, hab.trans hbc⟩

theorem lazy_init_races : RaceOn coldStartTrace 7 := by
  refine ⟨2, 3, ⟨1, .write, 7⟩, ⟨2, .write, 7⟩, by decide, rfl, rfl, by decide, rfl, ?_⟩
  intro h
  obtain ⟨a, b, ha, hb, hab⟩ := hb_same_tid coldStartTrace (by decide) h
  obtain rfl := Option.some.inj ha
  obtain rfl := Option.some.inj hb
  cases hab

theorem InitFirst.append {pre post : Trace} (h0 : ∀ e ∈ pre, e.tid = 0) (h1 : ∀ e ∈ post, e.tid ≠ 0) :
    InitFirst (pre ++ post) := by
  intro i j a b hlt hi hj hb0
  by_cases hip : i < pre.length
  · rw [List.getElem?_append_left hip] at hi
    exact h0 a (List.mem_of_getElem? hi)
  · rw [List.getElem?_append_right (by omega)] at hj
    exact absurd hb0 (h1 b (List.mem_of_getElem? hj))

theorem forced_calls_eq (x : Nat) (calls : List Nat) :
    (calls.map fun tid => lazyCall tid x true).flatten = calls.map fun tid => ⟨tid, .read, x⟩ := by
  induction calls with
  | nil => rfl
  | cons c cs ih => rw [List.map_cons, List.flatten_cons, ih]; rfl

/-- **discipline (c)**: initialisation forces the lazy write, the goroutines `calls` then call the accessor
    in any order: no race on the field -/
theorem forced_init_race_free (x : Nat) (calls : List Nat) (hpos : ∀ tid ∈ calls, tid ≠ 0) :
    ¬ RaceOn (lazyCall 0 x false ++ (calls.map fun tid => lazyCall tid x true).flatten) x := by
  have hpre : ∀ e ∈ lazyCall 0 x false, e.tid = 0 := by simp [lazyCall]
  rw [forced_calls_eq]
  apply init_only_race_free
  · refine InitFirst.append hpre fun e he => ?_
    obtain ⟨tid, ht, rfl⟩ := List.mem_map.mp he
    exact hpos tid ht
  · intro i e hi hw _
    rcases List.mem_append.mp (List.mem_of_getElem? hi) with he | he
    · exact hpre e he
    · obtain ⟨tid, _, rfl⟩ := List.mem_map.mp he
      cases hw

/-! ### from the table to traces: the discipline evaluated on the rows is a discipline of every
    execution the rows describe -/

/-- the rows describe the trace: every read or write event has a row for its location with the same
    kind and the same "during initialisation" flag, and a row marked guarded stands for an access made
    while holding the location's mutex -/
def Conforms (t : Trace) (rows : List AccessRow) (mutexOf : Nat → Nat) : Prop :=
  ∀ (i : Nat) (e : Event), t[i]? = some e → (e.kind = .read ∨ e.kind = .write) →
    ∃ r ∈ rows, r.loc = e.obj ∧ r.isWrite = decide (e.kind = .write) ∧ r.inInit = decide (e.tid = 0) ∧
      (r.guarded = true → holder t (mutexOf e.obj) i = some e.tid)

/-- discipline (a) or (b) of `locOk` on the rows of `x` -/
def locOkAB (rows : List AccessRow) (x : Nat) : Bool :=
  let mine := rows.filter (fun r => r.loc == x)
  mine.all (fun r => !r.isWrite || r.inInit) || mine.all (fun r => r.inInit || r.guarded)

section
variable {t : Trace} {rows : List AccessRow} {mutexOf : Nat → Nat} {x : Nat} (hc : Conforms t rows mutexOf)
include hc

theorem Conforms.initOnly (ha : ((rows.filter fun r => r.loc == x).all fun r => !r.isWrite || r.inInit) = true) :
    InitOnly t x := by
  intro i e hi hw hx
  obtain ⟨r, hr, hloc, hisw, hinit, _⟩ := hc i e hi (Or.inr hw)
  have := List.all_eq_true.mp ha r (List.mem_filter.mpr ⟨hr, by rw [hloc, hx]; exact beq_self_eq_true x⟩)
  rw [hisw, hinit, decide_eq_true hw] at this
  simpa using this

theorem Conforms.guardedBy (hb : ((rows.filter fun r => r.loc == x).all fun r => r.inInit || r.guarded) = true) :
    GuardedBy t x (mutexOf x) := by
  intro i e hi hk hx htid
  obtain ⟨r, hr, hloc, _, hinit, hg⟩ := hc i e hi hk
  have := List.all_eq_true.mp hb r (List.mem_filter.mpr ⟨hr, by rw [hloc, hx]; exact beq_self_eq_true x⟩)
  rw [hinit, decide_eq_false htid, Bool.false_or] at this
  exact hx ▸ hg this

end

theorem contains_locs (rows : List AccessRow) (l : Nat) : (locs rows).contains l = rows.any (·.loc == l) := by
  rw [Bool.eq_iff_iff]
  simp [locs]

/-- a location that is never written after initialisation passes by discipline (a), so only the locations
    of the post-initialisation writes need looking at -/
theorem tableOk_of_late_writes (rows : List AccessRow) (ex : List Nat)
    (h : (rows.filter fun r => r.isWrite && !r.inInit).all (fun r => ex.contains r.loc || locOk rows r.loc) = true) :
    tableOk rows ex = true := by
  simp only [tableOk, List.all_eq_true, List.mem_filter, and_imp, Bool.and_eq_true, Bool.or_eq_true,
    Bool.not_eq_true'] at h ⊢
  intro l _ hex
  by_cases ha : (rows.filter (·.loc == l)).all (fun r => !r.isWrite || r.inInit) = true
  · simp only [locOk, ha, Bool.true_or]
  · simp only [List.all_eq_true, List.mem_filter, beq_iff_eq, Bool.or_eq_true, Bool.not_eq_true', and_imp,
      Classical.not_forall, not_or, Bool.not_eq_false, Bool.not_eq_true] at ha
    obtain ⟨r, hr, rfl, hw, hi⟩ := ha
    exact (h r hr hw hi).resolve_left (by rw [hex]; exact Bool.false_ne_true)

theorem locOk_ab_or_lazy (rows : List AccessRow) (l : Nat) (h : locOk rows l = true) :
    (locOkAB rows l || rows.any fun r => r.loc == l && r.isWrite && r.lazy && r.inInit) = true := by
  simp only [locOk, locOkAB, Bool.or_eq_true, Bool.and_eq_true, List.any_filter] at h ⊢
  rcases h with h | ⟨_, h⟩
  · exact .inl h
  · simpa only [Bool.and_assoc] using Or.inr h

end BtcVerif.Model.HB
