/-
  Lemmas for C07 (BIP32) about `Model.ckdPriv/ckdPub/derivePriv/derivePub/masterKey` over an
  ARBITRARY record of curve operations `C` with the named hypotheses of `Proofs/GroupAbs.lean`, and
  an ARBITRARY function `hmac` in place of HMAC-SHA512 of which only the output length (64 bytes,
  `HmacLen`) is used. Private and public paths are the same walk with a different step (`walk`).
-/
import BtcVerif.Proofs.GroupAbs
import BtcVerif.Spec.Bip32

namespace BtcVerif.Proofs.Bip32
open BtcVerif BtcVerif.Model BtcVerif.Model.Bip32 BtcVerif.Gen.Guards

/-- `hmac.Sum` of SHA-512 returns 64 bytes -/
def HmacLen (hmac : Bytes → Bytes → Bytes) : Prop := ∀ k d, (hmac k d).length = 64

theorem beNat_lt_of_len32 {bs : Bytes} (h : bs.length = 32) : beNat bs < 2 ^ 256 := by
  have := leNat_lt bs.reverse
  rwa [List.length_reverse, h] at this

theorem splitHmac_ok (l : Bytes) (h : l.length = 64) : splitHmac l = .ok (l.take 32, l.drop 32) := by
  unfold splitHmac; simp [h]

theorem splitHmac_eq_ok {l : Bytes} {r : Bytes × Bytes} (h : splitHmac l = .ok r) :
    r = (l.take 32, l.drop 32) ∧ 32 ≤ l.length := by
  unfold splitHmac at h
  split at h
  · cases h
  · injection h with h; exact ⟨h.symm, by omega⟩

theorem splitHmac_ne_err (l : Bytes) : splitHmac l ≠ .err := by
  unfold splitHmac; split <;> simp

theorem fill32_eq_ok {v : Nat} {b : Bytes} (h : fill32 v = .ok b) : b = beBytes 32 v ∧ v < 2 ^ 256 := by
  unfold fill32 at h
  split at h
  · injection h with h; exact ⟨h.symm, by assumption⟩
  · cases h

/-- the test `childIndex >= constants.Bip32Hardened` of both single steps -/
theorem hardened_guard (i : Nat) :
    bip32_derivePrivateChild_0 i = decide (2 ^ 31 ≤ i) ∧ bip32_derivePublicChild_0 i = decide (2 ^ 31 ≤ i) :=
  ⟨rfl, rfl⟩

variable {P : Type} {C : CurveOps P} {hmac : Bytes → Bytes → Bytes}

theorem ckdPrivData_normal (k : Bytes) {i : Nat} (hk : beNat k < 2 ^ 256) (hi : i < 2 ^ 31) :
    ckdPrivData C k i = .ok (C.compress (C.mulG (beNat k))) := by
  simp [ckdPrivData, hardened_guard, Nat.not_le.mpr hi, scalarBaseMult, hk]

theorem ckdPrivData_hardened (k : Bytes) {i : Nat} (hi : 2 ^ 31 ≤ i) :
    ckdPrivData C k i = .ok ((0 : UInt8) :: k) := by
  simp [ckdPrivData, hardened_guard, hi]

theorem ckdPriv_of_data (S : SecpGroup C) (hl : HmacLen hmac) {k : Bytes} (c : Bytes) {i : Nat}
    {d : Bytes} (hd : ckdPrivData C k i = .ok d) :
    ckdPriv C hmac k c i =
      .ok (beBytes 32 ((beNat ((hmac c (d ++ ser32 i)).take 32) + beNat k) % C.n),
           (hmac c (d ++ ser32 i)).drop 32) := by
  unfold ckdPriv
  simp [hd, splitHmac_ok _ (hl _ _), fill32, S.mod_n_lt]

/-- On a 32-byte key `derivePrivateChild` computes, for either kind of index, the candidate child
    `(k_i, I_R)` of BIP32's `CKDpriv`; the standard differs only in declaring the candidate invalid
    when `I_L ≥ n` or `k_i = 0`, which the code does not test. -/
theorem ckdPriv_vs_spec (S : SecpGroup C) (hl : HmacLen hmac) (k c : Bytes) (i : Nat)
    (hklen : k.length = 32) :
    ∃ IL ki cR, ckdPriv C hmac k c i = .ok (beBytes 32 ki, cR) ∧
      Spec.Bip32.ckdPriv C hmac (beNat k) c i = if IL ≥ C.n ∨ ki = 0 then none else some (ki, cR) := by
  have hser : Spec.Bip32.ser256 (beNat k) = k := by
    unfold Spec.Bip32.ser256; rw [← hklen]; exact beBytes_beNat k
  unfold Spec.Bip32.ckdPriv
  by_cases hi : i ≥ 2 ^ 31
  · exact ⟨_, _, _, ckdPriv_of_data S hl c (ckdPrivData_hardened k hi), by rw [if_pos hi, hser]; rfl⟩
  · exact ⟨_, _, _, ckdPriv_of_data S hl c (ckdPrivData_normal k (beNat_lt_of_len32 hklen) (by omega)),
      by rw [if_neg hi]; rfl⟩

theorem ckdPub_of_parse (hl : HmacLen hmac) (K c : Bytes) (i : Nat) (pt : P)
    (hp : C.parse K = some pt) (hi : i < 2 ^ 31) :
    ckdPub C hmac K c i =
      .ok (C.compress (C.add (C.mulG (beNat ((hmac c (C.compress pt ++ ser32 i)).take 32))) pt),
           (hmac c (C.compress pt ++ ser32 i)).drop 32) := by
  have hlen : ((hmac c (C.compress pt ++ ser32 i)).take 32).length = 32 := by
    simp [hl _ _]
  unfold ckdPub
  simp [hardened_guard, Nat.not_le.mpr hi, hp, scalarBaseMult, splitHmac_ok _ (hl _ _),
    beNat_lt_of_len32 hlen]

theorem ckdPub_hardened (K c : Bytes) (i : Nat) (hi : 2 ^ 31 ≤ i) : ckdPub C hmac K c i = .err := by
  unfold ckdPub
  simp [hardened_guard, hi]

theorem ckdPub_unparsable (K c : Bytes) (i : Nat) (hp : C.parse K = none) :
    ckdPub C hmac K c i = .err := by
  unfold ckdPub
  simp [hp]

theorem ckdPub_spec_failure [DecidableEq P] (K c : Bytes) (i : Nat) (Kpar : P)
    (h : Spec.Bip32.ckdPub C hmac Kpar c i = .failure) : ckdPub C hmac K c i = .err := by
  unfold Spec.Bip32.ckdPub at h
  by_cases hi : i ≥ 2 ^ 31
  · exact ckdPub_hardened K c i hi
  · simp only [hi, if_false] at h
    split at h <;> cases h

/-- public and private derivation commute, for every byte string `K` that parses to the
    parent's public point: `((I_L + k) mod n)·G = I_L·G + k·G` by `mulG_mod` and `mulG_add` -/
theorem ckd_commute_gen (S : SecpGroup C) (hl : HmacLen hmac) (k c : Bytes) (i : Nat)
    (hk : beNat k < 2 ^ 256) (hi : i < 2 ^ 31) :
    ∃ k' c', ckdPriv C hmac k c i = .ok (k', c') ∧
      ∀ K, C.parse K = some (C.mulG (beNat k)) →
        ckdPub C hmac K c i = .ok (C.compress (C.mulG (beNat k')), c') := by
  refine ⟨_, _, ckdPriv_of_data S hl c (ckdPrivData_normal k hk hi), fun K hp => ?_⟩
  rw [ckdPub_of_parse hl K c i _ hp hi, beNat_beBytes 32 _ (S.mod_n_lt _), S.mulG_mod, S.mulG_add]

theorem ckdPriv_lengths (hl : HmacLen hmac) {k c : Bytes} {i : Nat} {r : Bytes × Bytes}
    (h : ckdPriv C hmac k c i = .ok r) : r.1.length = 32 ∧ r.2.length = 32 := by
  unfold ckdPriv at h
  simp only [Outcome.bind_eq_ok] at h
  obtain ⟨_, _, l, hs, child, hf, hr⟩ := h
  obtain ⟨rfl, _⟩ := splitHmac_eq_ok hs
  obtain ⟨rfl, _⟩ := fill32_eq_ok hf
  injection hr with hr
  subst hr
  simp [hl _ _]

theorem ckdPub_lengths (E : PointCodec C) (hl : HmacLen hmac) {K c : Bytes} {i : Nat}
    {r : Bytes × Bytes} (h : ckdPub C hmac K c i = .ok r) : r.1.length = 33 ∧ r.2.length = 32 := by
  by_cases hi : 2 ^ 31 ≤ i
  · rw [ckdPub_hardened K c i hi] at h; cases h
  · cases hp : C.parse K with
    | none => rw [ckdPub_unparsable K c i hp] at h; cases h
    | some pt =>
      rw [ckdPub_of_parse hl K c i pt hp (by omega)] at h
      cases h
      simp [hl _ _, E.compress_length]

/-- a derivation path walked with the single step `step`: what `DerivePrivateChild` and
    `DerivePublicChild` have in common -/
def walk (step : Bytes → Bytes → Nat → Outcome (Bytes × Bytes)) :
    Bytes → Bytes → List Nat → Outcome (Bytes × Bytes)
  | k, c, [] => .ok (k, c)
  | k, c, i :: rest => step k c i >>= fun r => walk step r.1 r.2 rest

theorem derivePriv_eq_walk (k c : Bytes) (path : List Nat) :
    derivePriv C hmac k c path = walk (ckdPriv C hmac) k c path := by
  induction path generalizing k c with
  | nil => simp [derivePriv, walk, bip32_DerivePrivateChild_0]
  | cons i rest ih =>
    have : ¬ ((rest.length : Int) + 1 = 0) := by omega
    simp only [derivePriv, walk, bip32_DerivePrivateChild_0]
    cases ckdPriv C hmac k c i <;> simp [this, ih]

theorem derivePub_eq_walk (K c : Bytes) (path : List Nat) :
    derivePub C hmac K c path = walk (ckdPub C hmac) K c path := by
  induction path generalizing K c with
  | nil => simp [derivePub, walk, bip32_DerivePublicChild_0]
  | cons i rest ih =>
    have : ¬ ((rest.length : Int) + 1 = 0) := by omega
    simp only [derivePub, walk, bip32_DerivePublicChild_0]
    cases ckdPub C hmac K c i <;> simp [this, ih]

section walk
variable {step : Bytes → Bytes → Nat → Outcome (Bytes × Bytes)}

theorem bind_walk_eq_foldl (acc : Outcome (Bytes × Bytes)) (p : List Nat) :
    (acc >>= fun r => walk step r.1 r.2 p) =
      p.foldl (fun acc i => acc >>= fun r => step r.1 r.2 i) acc := by
  induction p generalizing acc with
  | nil => cases acc <;> rfl
  | cons i rest ih => rw [List.foldl_cons, ← ih]; cases acc <;> rfl

theorem walk_foldl (k c : Bytes) (p : List Nat) :
    walk step k c p = p.foldl (fun acc i => acc >>= fun r => step r.1 r.2 i) (.ok (k, c)) :=
  bind_walk_eq_foldl (.ok (k, c)) p

theorem walk_append (k c : Bytes) (p q : List Nat) :
    walk step k c (p ++ q) = (walk step k c p >>= fun r => walk step r.1 r.2 q) := by
  rw [walk_foldl, List.foldl_append, ← walk_foldl, bind_walk_eq_foldl]

theorem walk_last {Q : Bytes × Bytes → Prop} (hstep : ∀ {k c i r}, step k c i = .ok r → Q r)
    {p : List Nat} (hne : p ≠ []) {k c : Bytes} {r : Bytes × Bytes} (h : walk step k c p = .ok r) :
    Q r := by
  induction p generalizing k c with
  | nil => exact absurd rfl hne
  | cons i rest ih =>
    obtain ⟨r1, h1, h2⟩ := Outcome.bind_eq_ok.mp h
    cases rest with
    | nil => cases h2; exact hstep h1
    | cons j rest' => exact ih (List.cons_ne_nil _ _) h2

theorem walk_ne_ok {p : List Nat} (h : ∃ i ∈ p, ∀ k c r, step k c i ≠ .ok r) (k c : Bytes)
    (r : Bytes × Bytes) : walk step k c p ≠ .ok r := by
  induction p generalizing k c with
  | nil => obtain ⟨i, hi, _⟩ := h; cases hi
  | cons j rest ih =>
    intro hr
    obtain ⟨r1, h1, h2⟩ := Outcome.bind_eq_ok.mp hr
    obtain ⟨i, hi, hbad⟩ := h
    cases hi with
    | head => exact hbad k c r1 h1
    | tail _ hmem => exact ih ⟨i, hmem, hbad⟩ r1.1 r1.2 h2

end walk

/-- one private step applied to an outcome: the fold function of `path_fold` (`stepPub`: of `path_fold_pub`) -/
def stepPriv (C : CurveOps P) (hmac : Bytes → Bytes → Bytes) (acc : Outcome (Bytes × Bytes)) (i : Nat) :
    Outcome (Bytes × Bytes) := acc >>= fun r => ckdPriv C hmac r.1 r.2 i

def stepPub (C : CurveOps P) (hmac : Bytes → Bytes → Bytes) (acc : Outcome (Bytes × Bytes)) (i : Nat) :
    Outcome (Bytes × Bytes) := acc >>= fun r => ckdPub C hmac r.1 r.2 i

/-- The hypothesis of `path_commute`: every step is non-hardened and every key met on the private
    path is a valid scalar (i.e. no step hits the BIP32 "child = 0" case; `I_L ≥ n` need not be
    excluded, both sides reduce `I_L` mod `n`). Decidable. -/
def noSkip (C : CurveOps P) (hmac : Bytes → Bytes → Bytes) : Bytes → Bytes → List Nat → Bool
  | _, _, [] => true
  | k, c, i :: rest =>
    decide (i < 2 ^ 31) &&
      match ckdPriv C hmac k c i with
      | .ok r => isValidScalar C.n (beNat r.1) && noSkip C hmac r.1 r.2 rest
      | _ => false

theorem path_commute_gen (S : SecpGroup C) (E : PointCodec C) (hl : HmacLen hmac)
    (k c : Bytes) (path : List Nat) (hk : beNat k < 2 ^ 256) (hne : path ≠ [])
    (hs : noSkip C hmac k c path = true) :
    ∃ k' c', derivePriv C hmac k c path = .ok (k', c') ∧
      ∀ K, C.parse K = some (C.mulG (beNat k)) →
        derivePub C hmac K c path = .ok (C.compress (C.mulG (beNat k')), c') := by
  simp only [derivePriv_eq_walk, derivePub_eq_walk]
  induction path generalizing k c with
  | nil => exact absurd rfl hne
  | cons i rest ih =>
    simp only [noSkip, Bool.and_eq_true, decide_eq_true_eq] at hs
    obtain ⟨hi, hs⟩ := hs
    obtain ⟨k1, c1, h1, h2⟩ := ckd_commute_gen S hl k c i hk hi
    rw [h1] at hs
    simp only [Bool.and_eq_true] at hs
    obtain ⟨hv, hs'⟩ := hs
    cases rest with
    | nil => exact ⟨k1, c1, by simp [walk, h1], fun K hp => by simp [walk, h2 K hp]⟩
    | cons j rest' =>
      obtain ⟨k', c', h3, h4⟩ := ih k1 c1 (S.valid_lt hv) (List.cons_ne_nil _ _) hs'
      refine ⟨k', c', by rw [walk, h1]; exact h3, fun K hp => ?_⟩
      rw [walk, h2 K hp]
      exact h4 _ (E.parse_compress _ (S.mulG_valid_ne_zero hv))

theorem masterKey_eq (seed : Bytes) :
    masterKey hmac seed =
      if 16 ≤ seed.length ∧ seed.length ≤ 64 ∧ seed.length % 4 = 0 then splitHmac (hmac seedIV seed)
      else .err := by
  unfold masterKey
  have hmod : Int.tmod (seed.length : Int) 4 = ((seed.length % 4 : Nat) : Int) := by
    rw [Int.tmod_eq_emod_of_nonneg (by omega)]; omega
  have hg : bip32_GenerateMasterKey_0 (len_seed := seed.length) = true ↔
      ¬ (16 ≤ seed.length ∧ seed.length ≤ 64 ∧ seed.length % 4 = 0) := by
    simp only [bip32_GenerateMasterKey_0, Bool.or_eq_true, decide_eq_true_eq, hmod]
    omega
  by_cases h : 16 ≤ seed.length ∧ seed.length ≤ 64 ∧ seed.length % 4 = 0
  · rw [if_pos h, if_neg (fun hh => hg.mp hh h)]
  · rw [if_neg h, if_pos (hg.mpr h)]

theorem masterKey_ok (hl : HmacLen hmac) {seed : Bytes}
    (h : 16 ≤ seed.length ∧ seed.length ≤ 64 ∧ seed.length % 4 = 0) :
    masterKey hmac seed = .ok ((hmac seedIV seed).take 32, (hmac seedIV seed).drop 32) := by
  rw [masterKey_eq, if_pos h, splitHmac_ok _ (hl _ _)]

theorem masterKey_lengths (hl : HmacLen hmac) {seed : Bytes} {r : Bytes × Bytes}
    (h : masterKey hmac seed = .ok r) : r.1.length = 32 ∧ r.2.length = 32 := by
  rw [masterKey_eq] at h
  split at h
  · obtain ⟨rfl, _⟩ := splitHmac_eq_ok h
    simp [hl _ _]
  · cases h

theorem isCompressed_of_len65 {K : Bytes} (h : K.length = 65) : isCompressedPublicKey K = false := by
  cases K with
  | nil => rfl
  | cons b rest =>
    simp only [List.length_cons] at h
    simp [isCompressedPublicKey, Gen.constants_PublicKeyCompressedLength]
    omega

theorem keyFingerprint_compress (E : PointCodec C) (hash160 : Bytes → Bytes) (a : P)
    (ha : a ≠ C.zero) :
    keyFingerprint C hash160 (C.compress a) = .ok ((hash160 (C.compress a)).take 4) := by
  unfold keyFingerprint
  rw [E.parse_compress a ha]
  cases isCompressedPublicKey (C.compress a) <;> simp [bip32_KeyFingerprint_0]

theorem keyFingerprint_uncompress (E : PointCodec C) (hash160 : Bytes → Bytes) (a : P)
    (ha : a ≠ C.zero) :
    keyFingerprint C hash160 (C.uncompress a) = .ok ((hash160 (C.compress a)).take 4) := by
  unfold keyFingerprint
  rw [E.parse_uncompress a ha, isCompressed_of_len65 (E.uncompress_length a)]
  simp [bip32_KeyFingerprint_0]

end BtcVerif.Proofs.Bip32
