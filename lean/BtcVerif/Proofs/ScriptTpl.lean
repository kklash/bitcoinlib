/-
  The standard output templates (P2PKH, P2SH, P2WPKH, P2WSH) are all of the form `pre ++ h ++ post`
  with `h` of fixed length.  Each recogniser gets a closed form (a length test, a test on the first
  bytes, a test on the last bytes); what is said about recognisers, decoders and `ClassifyOutput`
  follows from the closed forms and one lemma about that layout.
-/
import BtcVerif.Model.Script
import BtcVerif.Spec.Script
namespace BtcVerif.Proofs.Script
open BtcVerif BtcVerif.Model BtcVerif.Parser
open BtcVerif.Gen BtcVerif.Gen.Guards

theorem toNat_eq_iff (a : UInt8) (n : Nat) (h : n < 256) : a.toNat = n ↔ a = UInt8.ofNat n := by
  constructor
  · intro e; rw [← e, UInt8.ofNat_toNat]
  · intro e; rw [e, UInt8.toNat_ofNat_of_lt' h]

theorem eq_template_iff (pre post s : Bytes) (n : Nat) :
    (∃ h, h.length = n ∧ s = pre ++ h ++ post) ↔
      s.length = pre.length + n + post.length ∧ s.take pre.length = pre ∧
        s.drop (pre.length + n) = post := by
  constructor
  · rintro ⟨h, hn, rfl⟩
    refine ⟨by simp only [List.length_append, hn], ?_, ?_⟩
    · rw [List.append_assoc, List.take_left' rfl]
    · exact List.drop_left' (by simp only [List.length_append, hn])
  · rintro ⟨hl, hp, hq⟩
    refine ⟨(s.drop pre.length).take n, by simp only [List.length_take, List.length_drop]; omega, ?_⟩
    have h := List.take_append_drop n (s.drop pre.length)
    rw [List.drop_drop, hq] at h
    have h' := List.take_append_drop pre.length s
    rw [hp, ← h] at h'
    rw [List.append_assoc, h']

theorem eq_prefix_template_iff (pre s : Bytes) (n : Nat) :
    (∃ h, h.length = n ∧ s = pre ++ h) ↔ s.length = pre.length + n ∧ s.take pre.length = pre := by
  have h := eq_template_iff pre [] s n
  simp only [List.append_nil, List.length_nil, Nat.add_zero, List.drop_eq_nil_iff] at h
  rw [h]
  exact ⟨fun ⟨a, b, _⟩ => ⟨a, b⟩, fun ⟨a, b⟩ => ⟨a, b, Nat.le_of_eq a⟩⟩

theorem sliceOf_template (pre h post : Bytes) {lo hi : Nat} (hlo : lo = pre.length)
    (hhi : hi = lo + h.length) : sliceOf (pre ++ h ++ post) lo hi = .ok h := by
  subst hlo hhi
  simp [sliceOf]

theorem sliceOf_prefix_template (pre h : Bytes) {lo hi : Nat} (hlo : lo = pre.length)
    (hhi : hi = lo + h.length) : sliceOf (pre ++ h) lo hi = .ok h := by
  simpa using sliceOf_template pre h [] hlo hhi

theorem decodeWith_ok {is : Bytes → Outcome Bool} {s h : Bytes} {lo hi : Nat} (hi' : is s = .ok true)
    (hs : sliceOf s lo hi = .ok h) : decodeWith is (fun r => !r) lo hi s = .ok h := by
  simp [decodeWith, hi', hs, Outcome.bind]

theorem decodeWith_err {is : Bytes → Outcome Bool} {s : Bytes} {r : Bool} (hr : is s = .ok r)
    (h : ¬ is s = .ok true) (lo hi : Nat) : decodeWith is (fun r => !r) lo hi s = .err := by
  cases r
  · simp [decodeWith, hr, Outcome.bind]
  · exact absurd hr h

theorem ok_total {x : Outcome Bool} {b : Bool} (h : x = .ok b) : x = .ok true ∨ x = .ok false := by
  cases b
  · exact Or.inr h
  · exact Or.inl h

theorem template_iff_make {mk : Bytes → Outcome Bytes} {tpl : Bytes → Bytes} {n : Nat}
    (hm : ∀ h, h.length = n → mk h = .ok (tpl h)) (s : Bytes) :
    (∃ h, h.length = n ∧ s = tpl h) ↔ ∃ h, h.length = n ∧ mk h = .ok s := by
  constructor
  · rintro ⟨h, hl, rfl⟩
    exact ⟨h, hl, hm h hl⟩
  · rintro ⟨h, hl, e⟩
    rw [hm h hl] at e
    injection e with e
    exact ⟨h, hl, e.symm⟩

-- The index proofs are written out: the `s[i]` notation would search for each of them.
theorem byteAt_of_lt {s : Bytes} {i : Nat} (h : i < s.length) : byteAt s i = .ok (s[i]'h) := by
  rw [byteAt, List.getElem?_eq_getElem h]

theorem take_two {s : Bytes} (h : 2 ≤ s.length) :
    s.take 2 = [s[0]'(by omega), s[1]'(by omega)] := by
  rw [List.take_succ_eq_append_getElem (i := 1) (by omega),
    List.take_succ_eq_append_getElem (i := 0) (by omega)]
  rfl

theorem isP2PKH_eq (s : Bytes) :
    isP2PKH s = .ok (decide (s.length = 25 ∧ s.take 3 = [0x76, 0xa9, 0x14] ∧
      s.drop 23 = [0x88, 0xac])) := by
  by_cases hl : s.length = 25
  · have ht : s.take 3 = [s[0]'(by omega), s[1]'(by omega), s[2]'(by omega)] := by
      rw [List.take_succ_eq_append_getElem (i := 2) (by omega), take_two (by omega)]
      rfl
    have hd : s.drop 23 = [s[23]'(by omega), s[24]'(by omega)] := by
      rw [List.drop_eq_getElem_cons (by omega), List.drop_eq_getElem_cons (by omega),
        List.drop_eq_nil_of_le (by omega)]
    rw [isP2PKH, if_neg (fun h => h hl)]
    simp [byteAt_of_lt, Outcome.bind, script_IsP2PKH_0, hl, ht, hd, toNat_eq_iff, Bool.and_assoc]
  · simp [isP2PKH, hl]

theorem isP2SH_eq (s : Bytes) :
    isP2SH s = .ok (decide (s.length = 23 ∧ s.take 2 = [0xa9, 0x14] ∧ s.drop 22 = [0x87])) := by
  by_cases hl : s.length = 23
  · have hd : s.drop 22 = [s[22]'(by omega)] := by
      rw [List.drop_eq_getElem_cons (by omega), List.drop_eq_nil_of_le (by omega)]
    rw [isP2SH, if_neg (fun h => h hl)]
    simp [byteAt_of_lt, Outcome.bind, script_IsP2SH_0, hl, take_two, hd, toNat_eq_iff,
      Bool.and_assoc]
  · simp [isP2SH, hl]

theorem isP2WPKH_eq (s : Bytes) :
    isP2WPKH s = .ok (decide (s.length = 22 ∧ s.take 2 = [0x00, 0x14])) := by
  by_cases hl : s.length = 22
  · rw [isP2WPKH, if_neg (fun h => h hl)]
    simp [byteAt_of_lt, Outcome.bind, script_IsP2WPKH_0, hl, take_two, toNat_eq_iff]
  · simp [isP2WPKH, hl]

theorem isP2WSH_eq (s : Bytes) :
    isP2WSH s = .ok (decide (s.length = 34 ∧ s.take 2 = [0x00, 0x20])) := by
  by_cases hl : s.length = 34
  · rw [isP2WSH, if_neg (fun h => h hl)]
    simp [byteAt_of_lt, Outcome.bind, script_IsP2WSH_0, hl, take_two, toNat_eq_iff]
  · simp [isP2WSH, hl]

theorem isP2PKH_iff (s : Bytes) :
    isP2PKH s = .ok true ↔ ∃ h, h.length = 20 ∧ s = Spec.Script.p2pkh h := by
  rw [isP2PKH_eq, Outcome.ok.injEq, decide_eq_true_eq]
  exact (eq_template_iff [0x76, 0xa9, 0x14] [0x88, 0xac] s 20).symm

theorem isP2SH_iff (s : Bytes) :
    isP2SH s = .ok true ↔ ∃ h, h.length = 20 ∧ s = Spec.Script.p2sh h := by
  rw [isP2SH_eq, Outcome.ok.injEq, decide_eq_true_eq]
  exact (eq_template_iff [0xa9, 0x14] [0x87] s 20).symm

theorem isP2WPKH_iff (s : Bytes) :
    isP2WPKH s = .ok true ↔ ∃ h, h.length = 20 ∧ s = Spec.Script.p2wpkh h := by
  rw [isP2WPKH_eq, Outcome.ok.injEq, decide_eq_true_eq]
  exact (eq_prefix_template_iff [0x00, 0x14] s 20).symm

theorem isP2WSH_iff (s : Bytes) :
    isP2WSH s = .ok true ↔ ∃ h, h.length = 32 ∧ s = Spec.Script.p2wsh h := by
  rw [isP2WSH_eq, Outcome.ok.injEq, decide_eq_true_eq]
  exact (eq_prefix_template_iff [0x00, 0x20] s 32).symm

theorem classify_eq {s : Bytes} {a b c d : Bool} (ha : isP2PKH s = .ok a) (hb : isP2SH s = .ok b)
    (hc : isP2WPKH s = .ok c) (hd : isP2WSH s = .ok d) :
    classify s = .ok (if a then .p2pkh else if b then .p2sh else if c then .p2wpkh
      else if d then .p2wsh else .nonstandard) := by
  simp only [classify, ha, hb, hc, hd, Outcome.bind, script_ClassifyOutput_0,
    script_ClassifyOutput_1, script_ClassifyOutput_2, script_ClassifyOutput_3,
    apply_ite Outcome.ok]
  rfl

def acceptCount (s : Bytes) : Nat :=
  (if isP2PKH s = .ok true then 1 else 0) + (if isP2SH s = .ok true then 1 else 0) +
  (if isP2WPKH s = .ok true then 1 else 0) + (if isP2WSH s = .ok true then 1 else 0)

end BtcVerif.Proofs.Script
