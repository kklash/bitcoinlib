/-
  The `kklash/bits` operations: bit lists and their values, splitting into groups and joining, and
  the cut of a bit string into whole groups and a remainder (`Chunked`).
-/
import BtcVerif.Model.Bech32
import BtcVerif.Proofs.Digits

namespace BtcVerif.Proofs.Bech32
open BtcVerif BtcVerif.Model BtcVerif.Model.Bech32 BtcVerif.Gen BtcVerif.Proofs.Digits

def bstep (v : Nat) (b : Bool) : Nat := 2 * v + (if b then 1 else 0)

theorem bitsToNat_eq (bs : Bits) : bitsToNat bs = bs.foldl bstep 0 := rfl

theorem bitsToNat_ofDigits (bs : Bits) : bitsToNat bs = ofDigits 2 (bs.map fun b => if b then 1 else 0) := by
  simp only [bitsToNat, ofDigits, List.foldl_map, Nat.mul_comm]

theorem bit_lt (bs : Bits) : ∀ d ∈ bs.map (fun b => if b then 1 else 0), d < 2 :=
  List.forall_mem_map.mpr fun b _ => by cases b <;> decide

theorem bitsToNat_append (xs ys : Bits) :
    bitsToNat (xs ++ ys) = bitsToNat xs * 2 ^ ys.length + bitsToNat ys := by
  simp only [bitsToNat_ofDigits, List.map_append, ofDigits_append, List.length_map]

theorem bitsToNat_cons (b : Bool) (bs : Bits) :
    bitsToNat (b :: bs) = (if b then 1 else 0) * 2 ^ bs.length + bitsToNat bs := by
  simp only [bitsToNat_ofDigits, List.map_cons, ofDigits_cons, List.length_map]

theorem bitsToNat_lt (bs : Bits) : bitsToNat bs < 2 ^ bs.length := by
  simpa only [bitsToNat_ofDigits, List.length_map] using ofDigits_lt 2 _ (bit_lt bs)

theorem bitsToNat_append_div (xs ys : Bits) : bitsToNat (xs ++ ys) / 2 ^ ys.length = bitsToNat xs := by
  simpa only [bitsToNat_ofDigits, List.map_append, List.length_map] using ofDigits_append_div 2 _ _ (bit_lt ys)

theorem bitsToNat_append_mod (xs ys : Bits) : bitsToNat (xs ++ ys) % 2 ^ ys.length = bitsToNat ys := by
  simpa only [bitsToNat_ofDigits, List.map_append, List.length_map] using ofDigits_append_mod 2 _ _ (bit_lt ys)

theorem bitsToNat_inj (xs ys : Bits) (hl : xs.length = ys.length) (h : bitsToNat xs = bitsToNat ys) : xs = ys := by
  rw [bitsToNat_ofDigits, bitsToNat_ofDigits] at h
  refine (List.map_inj_right fun x y => ?_).mp
    (ofDigits_inj 2 _ _ (by rw [List.length_map, List.length_map, hl]) (bit_lt xs) (bit_lt ys) h)
  cases x <;> cases y <;> simp

theorem bitsToNat_replicate_false (k : Nat) : bitsToNat (List.replicate k false) = 0 := by
  induction k with
  | zero => rfl
  | succ k ih =>
    rw [List.replicate_succ, show (false :: List.replicate k false) = [false] ++ List.replicate k false from rfl,
      bitsToNat_append, ih]
    simp [bitsToNat]

theorem trim_eq_nil_iff (bs : Bits) : trim bs = [] ↔ bitsToNat bs = 0 := by
  induction bs with
  | nil => simp [trim, bitsToNat]
  | cons b bs ih =>
    rw [bitsToNat_cons]
    cases b with
    | true =>
      have : 0 < 2 ^ bs.length := Nat.two_pow_pos _
      simp only [trim, if_true, Nat.one_mul]
      constructor
      · intro h; cases h
      · intro h; omega
    | false =>
      simp only [trim, Bool.false_eq_true, if_false, Nat.zero_mul, Nat.zero_add]
      exact ih

theorem trim_eq_nil_iff_all_false (bs : Bits) : trim bs = [] ↔ bs = List.replicate bs.length false := by
  induction bs with
  | nil => simp [trim]
  | cons b bs ih =>
    cases b with
    | true => simp [trim, List.replicate_succ]
    | false => simp only [trim, List.length_cons, List.replicate_succ, List.cons.injEq, true_and]; exact ih

theorem trim_length_ne_zero (bs : Bits) : (trim bs).length ≠ 0 ↔ bitsToNat bs ≠ 0 := by
  rw [Ne, List.length_eq_zero_iff, trim_eq_nil_iff]

/-- the five low bits of a value, most significant first (`group[8-BitGroupSize:]`) -/
def bits5 (v : Nat) : Bits := (byteToBits v).drop 3

theorem charBits_eq (c : UInt8) : charBits c = bits5 (alphaIndex c) := rfl

theorem bits5_length (v : Nat) : (bits5 v).length = 5 := by simp [bits5, byteToBits]

theorem byteToBits_length (v : Nat) : (byteToBits v).length = 8 := by simp [byteToBits]

theorem bitsToNat_testBits (v n : Nat) : bitsToNat ((List.range n).reverse.map v.testBit) = v % 2 ^ n := by
  rw [bitsToNat_ofDigits, List.map_map, ← ofDigits_testBits v n]
  exact congrArg _ (List.map_congr_left fun i _ => by rw [Function.comp]; cases v.testBit i <;> rfl)

theorem bitsToNat_bits5 (v : Nat) (h : v < 32) : bitsToNat (bits5 v) = v :=
  (bitsToNat_testBits v 5).trans (Nat.mod_eq_of_lt h)

theorem bitsToNat_byteToBits (v : Nat) (h : v < 256) : bitsToNat (byteToBits v) = v :=
  (bitsToNat_testBits v 8).trans (Nat.mod_eq_of_lt h)

theorem bits5_bitsToNat (g : Bits) (hg : g.length = 5) : bits5 (bitsToNat g) = g :=
  bitsToNat_inj _ _ ((bits5_length _).trans hg.symm) (bitsToNat_bits5 _ (by simpa only [hg] using bitsToNat_lt g))

theorem byteToBits_bitsToNat (g : Bits) (hg : g.length = 8) : byteToBits (bitsToNat g) = g :=
  bitsToNat_inj _ _ ((byteToBits_length _).trans hg.symm) (bitsToNat_byteToBits _ (by simpa only [hg] using bitsToNat_lt g))

theorem splitAux_flatten (n : Nat) (hn : 0 < n) (gs : List Bits) (hg : ∀ g ∈ gs, g.length = n) :
    ∀ fuel, gs.length ≤ fuel → splitAux n fuel gs.flatten = gs := by
  induction gs with
  | nil => intro fuel _; cases fuel <;> simp [splitAux]
  | cons g gs ih =>
    intro fuel hf
    cases fuel with
    | zero => simp at hf
    | succ fuel =>
      have hgl : g.length = n := hg g (by simp)
      have hne : (g ++ gs.flatten).isEmpty = false := by
        cases g with
        | nil => simp at hgl; omega
        | cons _ _ => rfl
      simp only [List.flatten_cons, splitAux, hne, Bool.false_eq_true, if_false]
      rw [List.take_left' hgl, List.drop_left' hgl,
        ih (fun x hx => hg x (by simp [hx])) fuel (by simpa using hf)]

theorem flatten_length_uniform (n : Nat) (gs : List Bits) (hg : ∀ g ∈ gs, g.length = n) :
    gs.flatten.length = n * gs.length := by
  induction gs with
  | nil => simp
  | cons g gs ih =>
    simp only [List.flatten_cons, List.length_append, List.length_cons]
    rw [ih (fun x hx => hg x (by simp [hx])), hg g (by simp), Nat.mul_succ]; omega

theorem split_flatten (n : Nat) (hn : 0 < n) (gs : List Bits) (hg : ∀ g ∈ gs, g.length = n) :
    split gs.flatten n = gs := by
  unfold split
  apply splitAux_flatten n hn gs hg
  rw [flatten_length_uniform n gs hg]
  exact Nat.le_mul_of_pos_left _ hn

theorem splitAux_spec (n : Nat) (hn : 0 < n) : ∀ (fuel : Nat) (bs : Bits), bs.length ≤ fuel →
    (splitAux n fuel bs).flatten = bs ∧
    (n ∣ bs.length → ∀ g ∈ splitAux n fuel bs, g.length = n) ∧
    (n ∣ bs.length → (splitAux n fuel bs).length = bs.length / n) := by
  intro fuel
  induction fuel with
  | zero =>
    intro bs h
    have : bs = [] := by cases bs <;> simp_all
    subst this; simp [splitAux]
  | succ fuel ih =>
    intro bs h
    cases hbs : bs with
    | nil => simp [splitAux]
    | cons b rest =>
      rw [← hbs]
      have hne : bs.isEmpty = false := by rw [hbs]; rfl
      have hpos : 0 < bs.length := by rw [hbs]; simp
      simp only [splitAux, hne, Bool.false_eq_true, if_false]
      have hdl : (bs.drop n).length ≤ fuel := by simp; omega
      obtain ⟨i1, i2, i3⟩ := ih (bs.drop n) hdl
      refine ⟨?_, ?_, ?_⟩
      · simp only [List.flatten_cons, i1, List.take_append_drop]
      · intro hdiv g hgm
        have hle : n ≤ bs.length := Nat.le_of_dvd hpos hdiv
        have hdiv' : n ∣ (bs.drop n).length := by
          simp only [List.length_drop]
          exact Nat.dvd_sub hdiv (Nat.dvd_refl n)
        simp only [List.mem_cons] at hgm
        rcases hgm with hgm | hgm
        · subst hgm; simp; omega
        · exact i2 hdiv' g hgm
      · intro hdiv
        have hle : n ≤ bs.length := Nat.le_of_dvd hpos hdiv
        have hdiv' : n ∣ (bs.drop n).length := by
          simp only [List.length_drop]
          exact Nat.dvd_sub hdiv (Nat.dvd_refl n)
        simp only [List.length_cons, i3 hdiv', List.length_drop]
        exact (Nat.div_eq_sub_div hn hle).symm

theorem flatten_split (bs : Bits) (n : Nat) (hn : 0 < n) : (split bs n).flatten = bs :=
  (splitAux_spec n hn bs.length bs (Nat.le_refl _)).1

theorem split_length_each (bs : Bits) (n : Nat) (hn : 0 < n) (hd : n ∣ bs.length) :
    ∀ g ∈ split bs n, g.length = n :=
  (splitAux_spec n hn bs.length bs (Nat.le_refl _)).2.1 hd

theorem split_length (bs : Bits) (n : Nat) (hn : 0 < n) (hd : n ∣ bs.length) :
    (split bs n).length = bs.length / n :=
  (splitAux_spec n hn bs.length bs (Nat.le_refl _)).2.2 hd

structure Chunked (t : Nat) (X : Bits) (gs : List Bits) (R : Bits) : Prop where
  eq : gs.flatten ++ R = X
  len : ∀ g ∈ gs, g.length = t
  rem : R.length < t

namespace Chunked
variable {t : Nat} {X Y R R' : Bits} {gs gs' : List Bits}

theorem cons {g : Bits} (hg : g.length = t) (h : Chunked t X gs R) : Chunked t (g ++ X) (g :: gs) R where
  eq := by rw [List.flatten_cons, List.append_assoc, h.eq]
  len := List.forall_mem_cons.mpr ⟨hg, h.len⟩
  rem := h.rem

theorem append (h : Chunked t X gs R') (h' : Chunked t (R' ++ Y) gs' R) :
    Chunked t (X ++ Y) (gs ++ gs') R where
  eq := by rw [List.flatten_append, List.append_assoc, h'.eq, ← List.append_assoc, h.eq]
  len := List.forall_mem_append.mpr ⟨h.len, h'.len⟩
  rem := h'.rem

theorem length_eq (h : Chunked t X gs R) : X.length = t * gs.length + R.length := by
  rw [← h.eq, List.length_append, flatten_length_uniform t gs h.len]

theorem mod_eq (h : Chunked t X gs R) : X.length % t = R.length := by
  rw [h.length_eq, Nat.mul_add_mod, Nat.mod_eq_of_lt h.rem]

theorem take_eq (h : Chunked t X gs R) : X.take (X.length - X.length % t) = gs.flatten := by
  rw [h.mod_eq, h.length_eq, Nat.add_sub_cancel, ← h.eq]
  exact List.take_left' (flatten_length_uniform t gs h.len)

theorem drop_eq (h : Chunked t X gs R) : X.drop (X.length - X.length % t) = R := by
  rw [h.mod_eq, h.length_eq, Nat.add_sub_cancel, ← h.eq]
  exact List.drop_left' (flatten_length_uniform t gs h.len)

theorem split_eq (ht : 0 < t) (h : Chunked t X gs []) : split X t = gs := by
  rw [← h.eq, List.append_nil, split_flatten t ht gs h.len]

theorem split_padRight (ht : 0 < t) (h : Chunked t X gs R) (hX : X ≠ []) :
    split (padRight X t) t =
      if R.length ≠ 0 then gs ++ [R ++ List.replicate (t - R.length) false] else gs := by
  have hrem := h.rem
  rw [padRight, if_neg (Nat.ne_of_gt ht), h.mod_eq]
  by_cases hr : R.length ≠ 0
  · rw [if_neg fun hc => hr hc.1, if_pos hr]
    refine (h.append (R := []) ⟨by simp, ?_, ht⟩).split_eq ht
    simp only [List.mem_singleton, forall_eq, List.length_append, List.length_replicate]
    omega
  · rw [if_pos ⟨Decidable.not_not.mp hr, fun hl => hX (List.eq_nil_of_length_eq_zero hl)⟩, if_neg hr]
    rw [List.eq_nil_of_length_eq_zero (Decidable.not_not.mp hr)] at h
    exact h.split_eq ht

end Chunked

theorem exists_chunked {t : Nat} (ht : 0 < t) (X : Bits) : ∃ gs R, Chunked t X gs R :=
  ⟨split (X.take (X.length - X.length % t)) t, X.drop (X.length - X.length % t),
    by rw [flatten_split _ _ ht, List.take_append_drop],
    split_length_each _ t ht (by
      rw [List.length_take, Nat.min_eq_left (Nat.sub_le _ _)]; exact Nat.dvd_sub_mod _),
    by rw [List.length_drop]; have := Nat.mod_lt X.length ht; omega⟩

theorem padRight5 (bs : Bits) (hne : bs.length ≠ 0) :
    ∃ k, k < 5 ∧ padRight bs 5 = bs ++ List.replicate k false ∧ (bs.length + k) % 5 = 0 := by
  unfold padRight
  simp only [show (5 : Nat) ≠ 0 by decide, if_false]
  by_cases h : bs.length % 5 = 0
  · exact ⟨0, by decide, by simp [h, hne], by simpa using h⟩
  · refine ⟨5 - bs.length % 5, by omega, by simp [h], by omega⟩

theorem bytesToBits_eq (bs : Bytes) : bytesToBits bs = (bs.map (fun b => byteToBits b.toNat)).flatten := by
  simp [bytesToBits, List.flatMap]

theorem bytesToBits_length (bs : Bytes) : (bytesToBits bs).length = 8 * bs.length := by
  rw [bytesToBits_eq, flatten_length_uniform 8]
  · simp
  · intro g hg
    rw [List.mem_map] at hg
    obtain ⟨b, _, rfl⟩ := hg
    exact byteToBits_length _

theorem mapM'_ok {α β} (f : α → Outcome β) (g : α → β) (xs : List α) (h : ∀ x ∈ xs, f x = .ok (g x)) :
    mapM' f xs = .ok (xs.map g) := by
  induction xs with
  | nil => rfl
  | cons x xs ih =>
    simp only [mapM', h x (by simp), ih (fun y hy => h y (by simp [hy])), List.map_cons]

theorem bitsBytes_ok (bs : Bits) (h8 : bs.length % 8 = 0) :
    bitsBytes bs = .ok ((split bs 8).map (fun g => UInt8.ofNat (bitsToNat g))) := by
  unfold bitsBytes
  rw [if_neg (by simp [h8])]
  apply mapM'_ok
  intro g hg
  have := split_length_each bs 8 (by decide) (Nat.dvd_of_mod_eq_zero h8) g hg
  simp [bitsByte, this]

theorem bitsBytes_flatten (gs : List Bits) (h : ∀ g ∈ gs, g.length = 8) :
    bitsBytes gs.flatten = .ok (gs.map fun g => UInt8.ofNat (bitsToNat g)) := by
  rw [bitsBytes_ok _ (by rw [flatten_length_uniform 8 gs h, Nat.mul_mod_right]), split_flatten 8 (by decide) gs h]

theorem bitsBytes_bytesToBits (bs : Bytes) : bitsBytes (bytesToBits bs) = .ok bs := by
  rw [bytesToBits_eq, bitsBytes_flatten _ (List.forall_mem_map.mpr fun b _ => byteToBits_length _),
    map_map_cancel fun b _ => by rw [bitsToNat_byteToBits _ b.toNat_lt, UInt8.ofNat_toNat]]

theorem bytesToBits_map_ofNat (gs : List Bits) (h : ∀ g ∈ gs, g.length = 8) :
    bytesToBits (gs.map fun g => UInt8.ofNat (bitsToNat g)) = gs.flatten := by
  rw [bytesToBits_eq, List.map_map]
  congr 1
  refine (List.map_congr_left fun g hg => ?_).trans (List.map_id gs)
  have hlt : bitsToNat g < 256 := by simpa only [h g hg] using bitsToNat_lt g
  rw [Function.comp, UInt8.toNat_ofNat_of_lt' hlt, byteToBits_bitsToNat g (h g hg)]
  rfl

end BtcVerif.Proofs.Bech32
