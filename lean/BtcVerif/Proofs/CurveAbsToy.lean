/-
  The hypotheses of `Proofs/CurveAbs.lean` are satisfiable: a genuine small curve of the secp256k1
  family, `y² = x³ + 7` over F₄₃ (43 ≡ 3 mod 4, so `c^((p+1)/4) = c^11` is the square-root
  exponentiation), which has 31 points (prime order), generator `(2, 12)`. The group is `ZMod 31`,
  `xy k = k·G` computed with ekliptic's affine chord/tangent formulas (`AddAffine`), inverses by
  Fermat. The fields of `FieldHyp` / `CurveAbs` are discharged by kernel evaluation over the finite
  ranges (`decide +kernel`), `SqrtUnique` by primality of 43, the group-law fields from the addition
  table by `ZMod` arithmetic and one induction (`xy_mul`) — no axioms.
-/
import BtcVerif.Proofs.CurveAbs

namespace BtcVerif.Proofs.Toy
open BtcVerif BtcVerif.Model.ECC

/-- inverse in F₄₃ by Fermat -/
def finv (a : Nat) : Nat := a ^ 41 % 43

/-- `ekliptic.AddAffine` over F₄₃ (same case split: neutral element, opposite points, tangent, chord) -/
def add (P Q : Pt) : Pt :=
  if P.1 = 0 ∧ P.2 = 0 then Q
  else if Q.1 = 0 ∧ Q.2 = 0 then P
  else if P.1 = Q.1 ∧ P.2 ≠ Q.2 then (0, 0)
  else
    let m := if P.1 = Q.1 then 3 * P.1 * P.1 * finv (2 * P.2) % 43
             else (Q.2 + 43 - P.2) * finv (Q.1 + 43 - P.1) % 43
    let x3 := (m * m + 2 * 43 - P.1 - Q.1) % 43
    (x3, (m * (P.1 + 43 - x3) + 43 - P.2) % 43)

def mulNat : Nat → Pt → Pt
  | 0, _ => (0, 0)
  | k + 1, P => add (mulNat k P) P

def ops : CurveOps where
  p := 43
  n := 31
  gx := 2
  gy := 12
  sqrtExp := fun c => c ^ 11 % 43
  add := add
  mul := mulNat
  invN := fun s => s ^ 29 % 31

def tbl (k : Nat) : Pt := mulNat k (2, 12)

theorem fieldHyp : FieldHyp ops where
  p_gt := by decide
  p_odd := by decide
  p_lt := by decide
  sqrtExp_lt := fun c => Nat.mod_lt _ (by decide)
  sqrt_complete := by
    intro c y hy hc
    subst hc
    revert y
    show ∀ y, y < 43 → (y * y % 43) ^ 11 % 43 * ((y * y % 43) ^ 11 % 43) % 43 = y * y % 43
    decide +kernel
  sqrt_unique := sqrt_unique_of_prime (p := 43) (by decide)
  no_x_zero := by
    show ∀ y, y < 43 → y * y % 43 ≠ 7
    decide +kernel
  no_y_zero := by
    show ∀ x, x < 43 → (x * x * x + 7) % 43 ≠ 0
    decide +kernel

theorem tbl_add : ∀ a, a < 31 → ∀ b, b < 31 → add (tbl a) (tbl b) = tbl ((a + b) % 31) := by decide +kernel

theorem tbl_inj : ∀ a, a < 31 → ∀ b, b < 31 → tbl a = tbl b → a = b := by decide +kernel

theorem tbl_valid : ∀ a, a < 31 → a ≠ 0 → Spec.ECC.validPoint ops (tbl a) = true := by decide +kernel

def idx (Q : Pt) : Nat := ((List.range 31).find? (fun a => tbl a == Q)).getD 0

/-- the finite check behind `surj`, as one closed Boolean -/
def surjCheck : Bool :=
  (List.range 43).all fun x => (List.range 43).all fun y =>
    !Spec.ECC.validPoint ops (x, y) ||
      (decide (idx (x, y) < 31) && decide (idx (x, y) ≠ 0) && tbl (idx (x, y)) == (x, y))

theorem surjCheck_true : surjCheck = true := by decide +kernel

theorem tbl_surj (x : Nat) (hx : x < 43) (y : Nat) (hy : y < 43)
    (hv : Spec.ECC.validPoint ops (x, y) = true) :
    (idx (x, y) < 31 ∧ idx (x, y) ≠ 0 ∧ tbl (idx (x, y)) = (x, y)) := by
  have h := surjCheck_true
  unfold surjCheck at h
  rw [List.all_eq_true] at h
  have h := h x (List.mem_range.mpr hx)
  rw [List.all_eq_true] at h
  have h := h y (List.mem_range.mpr hy)
  simpa [hv, and_assoc] using h

theorem tbl_neg : ∀ a, a < 31 → a ≠ 0 → tbl (31 - a) = ((tbl a).1, 43 - (tbl a).2) := by decide +kernel

theorem inv_ok : ∀ s, s < 31 → 0 < s → s ^ 29 % 31 * s % 31 = 1 := by decide

def xy (a : ZMod 31) : Pt := tbl a.val

theorem val_lt (a : ZMod 31) : a.val < 31 := ZMod.val_lt a

theorem xy_add (P Q : ZMod 31) : add (xy P) (xy Q) = xy (P + Q) := by
  unfold xy
  rw [tbl_add _ (val_lt P) _ (val_lt Q), ZMod.val_add]

theorem xy_mul (k : ℕ) (P : ZMod 31) : mulNat k (xy P) = xy (k • P) := by
  induction k with
  | zero => simp [mulNat, xy, tbl]
  | succ k ih => rw [mulNat, ih, xy_add, succ_nsmul]

def curveAbs : CurveAbs ops where
  field := fieldHyp
  Pt := ZMod 31
  G := 1
  xy := xy
  xy_zero := by simp [xy, tbl, mulNat]
  xy_inj := by
    intro P Q h
    exact ZMod.val_injective 31 (tbl_inj _ (val_lt P) _ (val_lt Q) h)
  xy_G := by
    show tbl (1 : ZMod 31).val = (2, 12)
    have : Fact (1 < 31) := ⟨by decide⟩
    rw [ZMod.val_one]; decide
  on_curve := by
    intro P hP
    exact tbl_valid _ (val_lt P) (fun h => hP ((ZMod.val_eq_zero P).mp h))
  surj := by
    intro Q hQ
    have hx : Q.1 < 43 ∧ Q.2 < 43 := by
      have := hQ
      simp only [Spec.ECC.validPoint, Bool.and_eq_true, decide_eq_true_eq] at this
      exact ⟨this.1.1, this.1.2⟩
    obtain ⟨ha, h0, ht⟩ := tbl_surj Q.1 hx.1 Q.2 hx.2 hQ
    generalize idx (Q.1, Q.2) = a at ha h0 ht
    refine ⟨(a : ZMod 31), ?_, ?_⟩
    · intro h
      rw [ZMod.natCast_eq_zero_iff] at h
      exact h0 (Nat.eq_zero_of_dvd_of_lt h ha)
    · show tbl ((a : ZMod 31)).val = Q
      rw [ZMod.val_natCast, Nat.mod_eq_of_lt ha, ht]
  neg_xy := by
    intro P hP
    have h0 : P.val ≠ 0 := fun h => hP ((ZMod.val_eq_zero P).mp h)
    show tbl (-P).val = _
    rw [ZMod.neg_val, if_neg hP]
    exact tbl_neg _ (val_lt P) h0
  n_gt := by decide
  n_lt := by decide
  order := by
    intro P
    show (31 : ℕ) • P = 0
    rw [nsmul_eq_mul, ZMod.natCast_self, zero_mul]
  G_order := by
    intro k h
    rw [nsmul_eq_mul, mul_one] at h
    exact (ZMod.natCast_eq_zero_iff k 31).mp h
  add_spec := xy_add
  mul_spec := xy_mul
  invN_spec := by
    intro s h0 hn
    exact inv_ok s hn h0

end BtcVerif.Proofs.Toy
