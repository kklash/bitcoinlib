/-
  The library's merkle recursion against Bitcoin Core's `ComputeMerkleRoot`.
-/
import BtcVerif.Model.Block
import BtcVerif.Spec.Consensus

namespace BtcVerif.Model
open BtcVerif
open BtcVerif.Gen.Guards

theorem pairUp_eq_hashPairs {α} (H : α → α → α) : ∀ l, pairUp H l = Spec.hashPairs H l
  | [] => rfl
  | [_] => rfl
  | a :: b :: rest => congrArg (H a b :: ·) (pairUp_eq_hashPairs H rest)

theorem hashPairs_length {α} (H : α → α → α) : ∀ l, (Spec.hashPairs H l).length = l.length / 2
  | [] => by simp [Spec.hashPairs]
  | [_] => by simp [Spec.hashPairs]
  | a :: b :: rest => by
    rw [Spec.hashPairs, List.length_cons, hashPairs_length H rest, List.length_cons, List.length_cons]
    omega

theorem odd_guard (n : Nat) : blocks_merkle_MerkleRootHashInternal_2 n = decide (n % 2 = 1) := by
  unfold blocks_merkle_MerkleRootHashInternal_2
  rw [Int.tmod_eq_emod_of_nonneg (by omega)]
  exact decide_eq_decide.mpr (by omega)

theorem dupLast_length {α} (hs : List α) (h : hs ≠ []) :
    (Spec.dupLastIfOdd hs).length = hs.length + hs.length % 2 := by
  unfold Spec.dupLastIfOdd
  split
  · rw [List.getLast?_eq_some_getLast h, List.length_append, List.length_singleton]
    omega
  · omega

theorem level_length {α} (H : α → α → α) (hs : List α) (h : 2 ≤ hs.length) :
    (Spec.hashPairs H (Spec.dupLastIfOdd hs)).length = (hs.length + 1) / 2 := by
  rw [hashPairs_length, dupLast_length hs (List.ne_nil_of_length_pos (by omega))]
  omega

theorem merkleModel_step {α} (H : α → α → α) (fuel : Nat) (a b c : α) (rest : List α) :
    merkleModel H (fuel + 1) (a :: b :: c :: rest) =
      merkleModel H fuel (pairUp H (Spec.dupLastIfOdd (a :: b :: c :: rest))) := by
  simp only [merkleModel, Spec.dupLastIfOdd, odd_guard, decide_eq_true_eq]
  rfl

/-- the library's recursion (special cases for one and two hashes, then duplicate-last, pair,
    recurse) computes Bitcoin's merkle root, for every pair-hash function and every non-empty list.
    The model gets one unit of fuel more: it matches on the fuel before the list, so it spends a unit
    even on a one-element list, where the specification matches on the list first. -/
theorem merkleModel_eq_spec {α} (H : α → α → α) (fuel : Nat) (hs : List α)
    (hne : hs ≠ []) (hf : hs.length ≤ fuel) :
    merkleModel H (fuel + 1) hs = Spec.computeMerkleRoot H fuel hs := by
  induction fuel generalizing hs with
  | zero => exact absurd (List.length_eq_zero_iff.mp (Nat.le_zero.mp hf)) hne
  | succ f ih =>
    match hs, hne with
    | [a], _ => rfl
    | [a, b], _ => simp [merkleModel, Spec.computeMerkleRoot, Spec.dupLastIfOdd, Spec.hashPairs]
    | a :: b :: c :: rest, _ =>
      have hl := level_length H (a :: b :: c :: rest) (by simp)
      rw [merkleModel_step, pairUp_eq_hashPairs]
      simp only [Spec.computeMerkleRoot]
      simp only [List.length_cons] at hl hf
      exact ih _ (List.ne_nil_of_length_pos (by omega)) (by omega)

theorem computeMerkleRoot_isSome {α} (H : α → α → α) (fuel : Nat) (hs : List α)
    (hne : hs ≠ []) (hf : hs.length ≤ fuel + 1) : (Spec.computeMerkleRoot H fuel hs).isSome := by
  induction fuel generalizing hs with
  | zero =>
    match hs, hne with
    | [a], _ => rfl
    | _ :: _ :: _, _ => simp at hf
  | succ f ih =>
    match hs, hne with
    | [a], _ => rfl
    | a :: b :: rest, _ =>
      have hl := level_length H (a :: b :: rest) (by simp)
      simp only [Spec.computeMerkleRoot]
      simp only [List.length_cons] at hl hf
      exact ih _ (List.ne_nil_of_length_pos (by omega)) (by omega)

end BtcVerif.Model
