/-
  C11, integers: `big.Int.Bytes()` / `SetBytes` / `BitLen` as modelled by `beMin` / `beNat` /
  `bitLen`, and the content bytes of a DER integer (`content`, the only non-empty string `IntOK`
  admits for a value).
-/
import BtcVerif.Proofs.DER

namespace BtcVerif.Model.DER
open BtcVerif BtcVerif.Gen.Guards BtcVerif.Spec

theorem beNat_cons (b : UInt8) (rest : Bytes) :
    beNat (b :: rest) = b.toNat * 256 ^ rest.length + beNat rest := by
  rw [Proofs.Digits.beNat_eq, Proofs.Digits.beNat_eq, List.map_cons, Proofs.Digits.ofDigits_cons, List.length_map]

theorem beNat_nil : beNat [] = 0 := rfl

theorem beNat_lt (bs : Bytes) : beNat bs < 256 ^ bs.length := by
  unfold beNat
  have := leNat_lt bs.reverse
  simpa using this

theorem beNat_zero_cons (rest : Bytes) : beNat (0 :: rest) = beNat rest := by
  rw [beNat_cons]; simp

def byteLen (n : Nat) : Nat := (bitLen n + 7) / 8

theorem bitLen_le_iff (n k : Nat) : bitLen n ≤ k ↔ n < 2 ^ k := by
  unfold bitLen
  by_cases h : n = 0
  · subst h; simp [Nat.pow_pos]
  · rw [if_neg h]
    have := Nat.log2_lt (n := n) (k := k) h
    omega

theorem byteLen_le_iff (n k : Nat) : byteLen n ≤ k ↔ n < 256 ^ k := by
  rw [show (256 : Nat) ^ k = 2 ^ (8 * k) from (Nat.pow_mul 2 8 k).symm, ← bitLen_le_iff]
  unfold byteLen; omega

theorem byteLen_le_32 {n : Nat} (h : n < 2 ^ 256) : byteLen n ≤ 32 :=
  (byteLen_le_iff n 32).mpr h

theorem beNat_beMin (n : Nat) : beNat (beMin n) = n :=
  beNat_beBytes _ _ ((byteLen_le_iff n _).mp (Nat.le_refl _))

theorem beMin_length (n : Nat) : (beMin n).length = byteLen n := beBytes_length _ _

theorem beMin_beNat_of_head_ne_zero (b : UInt8) (rest : Bytes) (hb : b.toNat ≠ 0) :
    beMin (beNat (b :: rest)) = b :: rest := by
  have hge : ¬ beNat (b :: rest) < 256 ^ rest.length := by
    rw [beNat_cons]
    have : 1 * 256 ^ rest.length ≤ b.toNat * 256 ^ rest.length := Nat.mul_le_mul_right _ (by omega)
    omega
  have hl : byteLen (beNat (b :: rest)) = (b :: rest).length := by
    have := (byteLen_le_iff _ _).mpr (beNat_lt (b :: rest))
    have : ¬ byteLen (beNat (b :: rest)) ≤ rest.length := fun hh => hge ((byteLen_le_iff _ _).mp hh)
    rw [List.length_cons] at *; omega
  rw [beMin, ← byteLen, hl, beBytes_beNat]

theorem beMin_head_ne_zero {n : Nat} {b : UInt8} {rest : Bytes} (h : beMin n = b :: rest) :
    b.toNat ≠ 0 := by
  intro hb
  -- then `n = beNat rest < 256 ^ rest.length`, so `rest.length` bytes would do
  have hv := beNat_beMin n
  have hlen := beMin_length n
  rw [h, beNat_cons, hb] at hv
  rw [h, List.length_cons] at hlen
  have := (byteLen_le_iff n rest.length).mpr (by have := beNat_lt rest; omega)
  omega

/-- the `vBytes` that `EncodeBigInt` emits after tag and length -/
def content (n : Nat) : Bytes :=
  match beMin n with
  | [] => [0]
  | b :: rest => if 128 ≤ b.toNat then 0 :: b :: rest else b :: rest

theorem content_nil {n : Nat} (h : beMin n = []) : content n = [0] := by
  unfold content; rw [h]

theorem content_cons {n : Nat} {b : UInt8} {rest : Bytes} (h : beMin n = b :: rest) :
    content n = if 128 ≤ b.toNat then 0 :: b :: rest else b :: rest := by
  unfold content; rw [h]

theorem beNat_content (n : Nat) : beNat (content n) = n := by
  have hv := beNat_beMin n
  cases h : beMin n with
  | nil => rw [content_nil h, ← hv, h]; rfl
  | cons b rest =>
    rw [content_cons h, ← hv, h]
    split
    · exact beNat_zero_cons _
    · rfl

theorem content_length (n : Nat) :
    1 ≤ (content n).length ∧ (content n).length ≤ byteLen n + 1 := by
  rw [← beMin_length n]
  cases h : beMin n with
  | nil => rw [content_nil h]; simp
  | cons b rest => rw [content_cons h]; split <;> simp

theorem content_length_le {n : Nat} (h : n < 2 ^ 256) : (content n).length ≤ 33 := by
  have := content_length n
  have := byteLen_le_32 h
  omega

theorem IntOK_content (n : Nat) : IntOK (content n) := by
  cases h : beMin n with
  | nil => rw [content_nil h]; exact ⟨by decide, fun hc => absurd hc.1 (by decide)⟩
  | cons b rest =>
    have hb := beMin_head_ne_zero h
    rw [content_cons h]
    unfold IntOK
    split <;> simp only [A, sigAt, List.getD_cons_zero, List.getD_cons_succ, UInt8.toNat_zero] <;> omega

theorem content_beNat (p : Bytes) (hp : p ≠ []) (h : IntOK p) : content (beNat p) = p := by
  unfold IntOK at h
  match p, hp with
  | a :: t, _ =>
    simp only [A, sigAt, List.getD_cons_zero, List.length_cons] at h
    by_cases ha : a.toNat = 0
    · obtain rfl : a = 0 := UInt8.toNat_inj.mp ha
      -- a leading zero is the whole string or a pad in front of a byte with the top bit set
      cases t with
      | nil => rfl
      | cons b rest =>
        simp only [List.getD_cons_succ, List.getD_cons_zero, List.length_cons] at h
        have hb : 128 ≤ b.toNat := by omega
        rw [beNat_zero_cons, content_cons (beMin_beNat_of_head_ne_zero b rest (by omega)), if_pos hb]
    · rw [content_cons (beMin_beNat_of_head_ne_zero a t ha), if_neg (by omega)]

end BtcVerif.Model.DER
