/-
  The value-level model of the signature hashes (Model/SigHash.lean) against the specification
  (Spec/SigHash.lean). `legacyPre_eq` is the one place where `legacyPre`, its guards and its surgery are
  unfolded: the modified copy is `insV`/`outsV` of Proofs/Heap.lean, i.e. what the pointer-level
  algorithm leaves behind, and it always serialises.
-/
import BtcVerif.Model.SigHash
import BtcVerif.Spec.SigHash
import BtcVerif.Proofs.Heap

namespace BtcVerif.Model
open BtcVerif BtcVerif.Model.Heap
open BtcVerif.Gen.Guards

theorem flag_none (ht : Nat) : tx_Tx_SignatureHashForInput_asg0 ht = Spec.isNone ht := by
  simp only [tx_Tx_SignatureHashForInput_asg0, Spec.isNone, Spec.baseType]
  by_cases h : ht &&& 31 = 2 <;> simp [h]
theorem flag_single (ht : Nat) : tx_Tx_SignatureHashForInput_asg1 ht = Spec.isSingle ht := by
  simp only [tx_Tx_SignatureHashForInput_asg1, Spec.isSingle, Spec.baseType]
  by_cases h : ht &&& 31 = 3 <;> simp [h]
theorem flag_acp (ht : Nat) : tx_Tx_SignatureHashForInput_asg2 ht = Spec.isACP ht := by
  simp only [tx_Tx_SignatureHashForInput_asg2, Spec.isACP]
  by_cases h : ht &&& 128 = 0
  · simp [h]
  · have : ht &&& 128 > 0 := Nat.pos_of_ne_zero h
    simp [h, this]
theorem wflag_none (ht : Nat) : tx_Tx_SignatureHashForWitnessInput_asg0 ht = Spec.isNone ht := flag_none ht
theorem wflag_single (ht : Nat) : tx_Tx_SignatureHashForWitnessInput_asg1 ht = Spec.isSingle ht := flag_single ht
theorem wflag_acp (ht : Nat) : tx_Tx_SignatureHashForWitnessInput_asg2 ht = Spec.isACP ht := flag_acp ht

theorem blankInputs_eq (ins : List TxIn) (nIn : Nat) (none single : Bool) :
    blankInputs ins nIn none single = ins.mapIdx (blankG nIn (none || single)) := by
  unfold blankInputs
  congr 1
  funext i vin
  have : (i : Int) ≠ (nIn : Int) ↔ i ≠ nIn := by omega
  simp only [tx_Tx_SignatureHashForInput_2, tx_Tx_SignatureHashForInput_3, blankG, this, decide_eq_true_eq]
  rfl

theorem blankOutputs_eq (outs : List TxOut) (nIn : Nat) :
    blankOutputs outs nIn = (outs.take (nIn + 1)).mapIdx (fun i o => if i < nIn then blankOut else o) := by
  unfold blankOutputs
  congr 1
  funext i o
  have : (i : Int) < (nIn : Int) ↔ i < nIn := by omega
  simp only [tx_Tx_SignatureHashForInput_6, this, decide_eq_true_eq]

/-- what `encTx` writes for a transaction without witnesses -/
def legacyBytes (v : Nat) (ins : List TxIn) (outs : List TxOut) (lock : Nat) : Bytes :=
  leBytes 4 v ++ encVarint ins.length ++ encMany encTxIn ins ++ encVarint outs.length ++ encMany encTxOut outs
    ++ leBytes 4 lock

theorem encTx_nowit (v : Nat) (ins : List TxIn) (outs : List TxOut) (lock : Nat) (w : Bool) :
    encTx ⟨v, ins, outs, none, lock⟩ w = .ok (legacyBytes v ins outs lock) := by
  simp [encTx, canSerialize, tx_Tx_serialize_1, tx_Tx_serialize_2, witLen, witList, legacyBytes, encMany]

theorem tx_Tx_SignatureHashForInput_0_iff (nIn li lo : Nat) (S : Bool) :
    tx_Tx_SignatureHashForInput_0 nIn li S lo = true ↔ li ≤ nIn ∨ (S = true ∧ lo ≤ nIn) := by
  simp [tx_Tx_SignatureHashForInput_0]

/-- normal form of `legacyPre`: ONE, or what stripping returned, or the serialisation of `insV`/`outsV`;
    the model's `panic` for `tx.Inputs[nInput]` out of range is unreachable (the first guard returns ONE) -/
theorem legacyPre_eq (tx : Tx) (nIn : Nat) (script : Bytes) (ht : Nat) :
    legacyPre tx nIn script ht =
      if tx.inputs.length ≤ nIn ∨ (Spec.isSingle ht = true ∧ tx.outputs.length ≤ nIn) then .ok .one else
      match stripOpCode script opCodeSeparator with
      | .err => .err
      | .panic => .panic
      | .ok sc => .ok (.preimage (legacyBytes tx.version
          (insV tx.inputs nIn sc (Spec.isNone ht || Spec.isSingle ht) (Spec.isACP ht))
          (outsV tx.outputs nIn (Spec.isNone ht) (Spec.isSingle ht)) tx.locktime ++ leBytes 4 ht)) := by
  unfold legacyPre
  simp only [flag_none, flag_single, flag_acp, tx_Tx_SignatureHashForInput_0_iff, tx_Tx_SignatureHashForInput_1,
    tx_Tx_SignatureHashForInput_4, tx_Tx_SignatureHashForInput_5]
  split
  · rfl
  · rename_i hone
    have hn : nIn < tx.inputs.length := by omega
    cases stripOpCode script opCodeSeparator with
    | err => rfl
    | panic => rfl
    | ok sc =>
      simp only [List.getElem?_eq_getElem hn, set_eq_modify tx.inputs nIn (fun o => { o with script := sc }) hn,
        blankInputs_eq, blankOutputs_eq, encTx_nowit]
      rfl

theorem legacyPre_fail (tx : Tx) (nIn : Nat) (script : Bytes) (ht : Nat) :
    (legacyPre tx nIn script ht = .err → stripOpCode script opCodeSeparator = .err) ∧
    (legacyPre tx nIn script ht = .panic → stripOpCode script opCodeSeparator = .panic) := by
  rw [legacyPre_eq]
  split
  · exact ⟨nofun, nofun⟩
  · split
    · exact ⟨fun _ => ‹_›, nofun⟩
    · exact ⟨nofun, fun _ => ‹_›⟩
    · exact ⟨nofun, nofun⟩

theorem encVec_congr {α} {f : α → Bytes} {xs : List α} {ys : List Bytes} (h : xs.map f = ys) (t : Bytes) :
    encVarint xs.length ++ (encMany f xs ++ t) = encVarint ys.length ++ (ys.flatten ++ t) := by
  subst h
  rw [encMany, List.length_map]

theorem insV_ser (is : List TxIn) (nIn : Nat) (sc : Bytes) (ht : Nat) (hn : nIn < is.length) :
    (insV is nIn sc (Spec.isNone ht || Spec.isSingle ht) (Spec.isACP ht)).map encTxIn =
      if Spec.isACP ht = true then
        (match is[nIn]? with | some vin => [Spec.serInput sc ht nIn nIn vin] | none => [])
      else is.mapIdx (Spec.serInput sc ht nIn) := by
  unfold insV
  simp only
  split
  · have hl : nIn < (is.modify nIn fun o => { o with script := sc }).length := by rwa [List.length_modify]
    rw [List.getElem?_eq_getElem hn, List.drop_eq_getElem_cons hl, List.take_succ_cons, List.take_zero,
      List.getElem_modify_eq]
    simp [Spec.serInput, encTxIn]
  · apply List.ext_getElem (by simp)
    intro i h1 h2
    simp only [List.getElem_map, List.getElem_mapIdx, List.getElem_modify, Spec.serInput, encTxIn]
    by_cases he : nIn = i
    · subst he; simp
    · have he' : ¬ i = nIn := fun h => he h.symm
      simp [he, he', Or.comm]

theorem outsV_ser (os : List TxOut) (nIn ht : Nat) :
    (outsV os nIn (Spec.isNone ht) (Spec.isSingle ht)).map encTxOut =
      (os.take (if Spec.isNone ht = true then 0 else if Spec.isSingle ht = true then nIn + 1 else os.length)).mapIdx
        (Spec.serOutput ht nIn) := by
  unfold outsV
  split
  · rfl
  · split
    · rename_i hs
      apply List.ext_getElem (by simp)
      intro i h1 h2
      have hi : i < nIn + 1 := by simp at h2; omega
      simp only [List.getElem_map, List.getElem_mapIdx, Spec.serOutput, hs, true_and]
      by_cases hlt : i < nIn
      · simp [hlt, Nat.ne_of_lt hlt, encTxOut]
      · simp [show i = nIn by omega]
    · rename_i hs
      rw [List.take_length]
      apply List.ext_getElem (by simp)
      intro i h1 h2
      simp [Spec.serOutput, hs]

theorem legacyBytes_spec (tx : Tx) (nIn : Nat) (sc : Bytes) (ht : Nat) (hn : nIn < tx.inputs.length)
    (hso : Spec.isSingle ht = true → nIn < tx.outputs.length) :
    legacyBytes tx.version (insV tx.inputs nIn sc (Spec.isNone ht || Spec.isSingle ht) (Spec.isACP ht))
        (outsV tx.outputs nIn (Spec.isNone ht) (Spec.isSingle ht)) tx.locktime ++ leBytes 4 ht
      = Spec.legacyPreimage tx nIn sc ht := by
  have hle : (if Spec.isNone ht = true then 0 else if Spec.isSingle ht = true then nIn + 1 else tx.outputs.length)
      ≤ tx.outputs.length := by
    split
    · exact Nat.zero_le _
    · split
      · exact hso ‹_›
      · exact Nat.le_refl _
  simp only [legacyBytes, Spec.legacyPreimage, List.append_assoc]
  rw [encVec_congr (insV_ser tx.inputs nIn sc ht hn), encVec_congr (outsV_ser tx.outputs nIn ht),
    List.length_mapIdx, List.length_take, Nat.min_eq_left hle]
  rfl

theorem uint256One_eq : uint256One = 1 :: List.replicate 31 0 := rfl

end BtcVerif.Model
