/-
  BIP32 extended-key strings (C10): `Deserialize` is the Base58Check decoder followed by a parser of
  the 78-byte payload; the theorems are facts about that parser on a payload given by its six fields.
-/
import BtcVerif.Model.XKey
import BtcVerif.Proofs.CheckPayload

namespace BtcVerif.Proofs.XKey
open BtcVerif BtcVerif.Model BtcVerif.Model.XKey BtcVerif.Gen.Guards

theorem ser32_length (v : Nat) : (ser32 v).length = 4 := by simp [ser32]

theorem ser32_beNat {a : Bytes} (h : a.length = 4) : ser32 (beNat a) = a := by
  rw [ser32, ← h, beBytes_beNat]

theorem beNat_ser32 {v : Nat} (h : v < 256 ^ 4) : beNat (ser32 v) = v := beNat_beBytes 4 v h

theorem layout (a b c e f : Bytes) (dep : UInt8) (ha : a.length = 4) (hb : b.length = 4)
    (hc : c.length = 4) (he : e.length = 32) :
    (a ++ [dep] ++ b ++ c ++ e ++ f)[4]? = some dep ∧
    (a ++ [dep] ++ b ++ c ++ e ++ f).take 4 = a ∧
    ((a ++ [dep] ++ b ++ c ++ e ++ f).drop 5).take 4 = b ∧
    ((a ++ [dep] ++ b ++ c ++ e ++ f).drop 9).take 4 = c ∧
    ((a ++ [dep] ++ b ++ c ++ e ++ f).drop 13).take 32 = e ∧
    (a ++ [dep] ++ b ++ c ++ e ++ f).drop 45 = f := by
  have e1 : a ++ [dep] ++ b ++ c ++ e ++ f = a ++ ([dep] ++ (b ++ (c ++ (e ++ f)))) := by simp
  rw [e1]
  refine ⟨?_, ?_, ?_, ?_, ?_, ?_⟩
  · rw [List.getElem?_append_right (by omega)]; simp [ha]
  · exact List.take_left' ha
  · have : a ++ ([dep] ++ (b ++ (c ++ (e ++ f)))) = (a ++ [dep]) ++ (b ++ (c ++ (e ++ f))) := by simp
    rw [this, List.drop_left' (by simp [ha]), List.take_left' hb]
  · have : a ++ ([dep] ++ (b ++ (c ++ (e ++ f)))) = (a ++ [dep] ++ b) ++ (c ++ (e ++ f)) := by simp
    rw [this, List.drop_left' (by simp [ha, hb]), List.take_left' hc]
  · have : a ++ ([dep] ++ (b ++ (c ++ (e ++ f)))) = (a ++ [dep] ++ b ++ c) ++ (e ++ f) := by simp
    rw [this, List.drop_left' (by simp [ha, hb, hc]), List.take_left' he]
  · have : a ++ ([dep] ++ (b ++ (c ++ (e ++ f)))) = (a ++ [dep] ++ b ++ c ++ e) ++ f := by simp
    rw [this, List.drop_left' (by simp [ha, hb, hc, he])]

theorem fields_of_length (P : Bytes) (hl : P.length = 78) :
    ∃ a dep b c e k0 krest, P = a ++ [dep] ++ b ++ c ++ e ++ k0 :: krest ∧
      a.length = 4 ∧ b.length = 4 ∧ c.length = 4 ∧ e.length = 32 ∧ krest.length = 32 := by
  obtain ⟨a, P1, rfl, ha, l1⟩ := CheckPayload.exists_append (n := 4) (m := 74) P hl
  obtain ⟨d, P2, rfl, hd, l2⟩ := CheckPayload.exists_append (n := 1) (m := 73) P1 l1
  obtain ⟨b, P3, rfl, hb, l3⟩ := CheckPayload.exists_append (n := 4) (m := 69) P2 l2
  obtain ⟨c, P4, rfl, hc, l4⟩ := CheckPayload.exists_append (n := 4) (m := 65) P3 l3
  obtain ⟨e, P5, rfl, he, l5⟩ := CheckPayload.exists_append (n := 32) (m := 33) P4 l4
  obtain ⟨dep, rfl⟩ := List.length_eq_one_iff.mp hd
  cases P5 with
  | nil => cases l5
  | cons k0 krest =>
    exact ⟨a, dep, b, c, e, k0, krest, by simp only [List.append_assoc], ha, hb, hc, he, Nat.succ.inj l5⟩

/-- `Deserialize` after the checksum test -/
def parse (pubOk : Bytes → Bool) (P : Bytes) : Outcome Fields :=
  if P.length ≠ 78 then .err
  else match P[4]? with
    | none => .panic
    | some depth =>
      match P.drop 45 with
      | [] => .panic
      | k0 :: krest =>
        if k0 = 0 then
          .ok ⟨krest, (P.drop 13).take 32, (P.drop 5).take 4, depth.toNat, beNat ((P.drop 9).take 4),
            beNat (P.take 4)⟩
        else if pubOk (k0 :: krest) then
          .ok ⟨k0 :: krest, (P.drop 13).take 32, (P.drop 5).take 4, depth.toNat,
            beNat ((P.drop 9).take 4), beNat (P.take 4)⟩
        else .err

theorem deserialize_eq (ck : Bytes → Bytes) (pubOk : Bytes → Bool) (s : Bytes) :
    deserialize ck pubOk s = Base58Check.decode ck s >>= parse pubOk := by
  unfold deserialize
  cases Base58Check.decode ck s with
  | err => rfl
  | panic => rfl
  | ok P =>
    simp only [Outcome.bind_ok, parse, bip32_Deserialize_0, bip32_Deserialize_1]
    by_cases hl : P.length = 78
    · simp only [hl, ne_eq, not_true_eq_false, if_false]
      cases P[4]? with
      | none => rfl
      | some depth =>
        simp only
        cases P.drop 45 with
        | nil => rfl
        | cons k0 krest =>
          simp [← UInt8.toNat_inj]
    · have : ((P.length : Int) ≠ 78) := by omega
      simp [this, hl]

theorem parse_fields (pubOk : Bytes → Bool) (a b c e : Bytes) (dep k0 : UInt8) (krest : Bytes)
    (ha : a.length = 4) (hb : b.length = 4) (hc : c.length = 4) (he : e.length = 32)
    (hk : krest.length = 32) :
    parse pubOk (a ++ [dep] ++ b ++ c ++ e ++ k0 :: krest) =
      if k0 = 0 then .ok ⟨krest, e, b, dep.toNat, beNat c, beNat a⟩
      else if pubOk (k0 :: krest) then .ok ⟨k0 :: krest, e, b, dep.toNat, beNat c, beNat a⟩
      else .err := by
  obtain ⟨l1, l2, l3, l4, l5, l6⟩ := layout a b c e (k0 :: krest) dep ha hb hc he
  have hlen : (a ++ [dep] ++ b ++ c ++ e ++ k0 :: krest).length = 78 := by
    simp only [List.length_append, List.length_cons, List.length_nil, ha, hb, hc, he, hk]
  unfold parse
  rw [if_neg (fun h => h hlen), l1]
  simp only [l2, l3, l4, l5, l6]

theorem parse_length {pubOk : Bytes → Bool} {P : Bytes} {r : Fields} (h : parse pubOk P = .ok r) :
    P.length = 78 :=
  Decidable.by_contra fun hl => by rw [parse, if_pos hl] at h; cases h

/-- well-formed fields of an extended key (the domain of the round trip); a public key must not start
    with 00, or it would be read back as a private key -/
structure WF (pubOk : Bytes → Bool) (key chainCode fp : Bytes) (depth index version : Nat)
    (isPrivate : Bool) : Prop where
  cc : chainCode.length = 32
  fp : fp.length = 4
  depth : depth < 256
  index : index < 4294967296
  version : version < 4294967296
  key : if isPrivate then key.length = 32
        else key.length = 33 ∧ key.head? ≠ some 0 ∧ pubOk key = true

theorem serialize_eq (ck : Bytes → Bytes) (key chainCode fp : Bytes) (depth index version : Nat)
    (isPrivate : Bool) :
    serialize ck key chainCode fp depth index version isPrivate =
      Base58Check.encode ck (ser32 version ++ [UInt8.ofNat depth] ++ (if depth = 0 then ser32 0 else fp) ++
        ser32 (if depth = 0 then 0 else index) ++ chainCode ++
        ((if isPrivate = true then ([0] : Bytes) else []) ++ key)) := by
  unfold serialize
  by_cases h : depth = 0 <;> cases isPrivate <;> simp [bip32_serialize_0, bip32_serialize_1, h]

/-- the parser on the payload `serialize` writes for well-formed fields (`fp'`, `index'`: fingerprint
    and index after the depth-0 normalisation) -/
theorem parse_serialized {pubOk : Bytes → Bool} {key chainCode fp fp' : Bytes} {depth index index' version : Nat}
    {isPrivate : Bool} (wf : WF pubOk key chainCode fp depth index version isPrivate)
    (hfpl : fp'.length = 4) (hidx : index' < 256 ^ 4) :
    parse pubOk (ser32 version ++ [UInt8.ofNat depth] ++ fp' ++ ser32 index' ++ chainCode ++
      ((if isPrivate = true then ([0] : Bytes) else []) ++ key)) =
      .ok ⟨key, chainCode, fp', depth, index', version⟩ := by
  have hk := wf.key
  -- the key field is `00 ‖ key`, or the public key, which does not start with 00
  obtain ⟨k0, krest, hkey, hkl, hsel⟩ : ∃ k0 krest,
      (if isPrivate = true then ([0] : Bytes) else []) ++ key = k0 :: krest ∧ krest.length = 32 ∧
      (k0 = 0 ∧ krest = key ∨ k0 ≠ 0 ∧ pubOk (k0 :: krest) = true ∧ k0 :: krest = key) := by
    cases isPrivate with
    | true => exact ⟨0, key, rfl, hk, Or.inl ⟨rfl, rfl⟩⟩
    | false =>
      obtain ⟨hk1, hk2, hk3⟩ := hk
      cases key with
      | nil => cases hk1
      | cons k0 krest =>
        exact ⟨k0, krest, rfl, by simpa using hk1, Or.inr ⟨by simpa using hk2, hk3, rfl⟩⟩
  rw [hkey, parse_fields pubOk _ _ _ _ _ k0 krest (ser32_length _) hfpl (ser32_length _) wf.cc hkl,
    beNat_ser32 wf.version, beNat_ser32 hidx, UInt8.toNat_ofNat_of_lt' wf.depth]
  rcases hsel with ⟨h0, rfl⟩ | ⟨h0, hp, rfl⟩
  · rw [if_pos h0]
  · rw [if_neg h0, if_pos hp]

theorem parse_accepts_iff (pubOk : Bytes → Bool) (P : Bytes) :
    (∃ r, parse pubOk P = .ok r) ↔ P.length = 78 ∧ (P[45]? = some 0 ∨ pubOk (P.drop 45) = true) := by
  by_cases hl : P.length = 78
  · obtain ⟨a, dep, b, c, e, k0, krest, rfl, ha, hb, hc, he, hk⟩ := fields_of_length P hl
    rw [parse_fields pubOk a b c e dep k0 krest ha hb hc he hk, ← List.getElem?_drop (j := 0),
      (layout a b c e (k0 :: krest) dep ha hb hc he).2.2.2.2.2, and_iff_right hl]
    by_cases h0 : k0 = 0
    · rw [if_pos h0]
      exact ⟨fun _ => Or.inl (by rw [h0]; rfl), fun _ => ⟨_, rfl⟩⟩
    · rw [if_neg h0]
      by_cases hp : pubOk (k0 :: krest) = true
      · rw [if_pos hp]
        exact ⟨fun _ => Or.inr hp, fun _ => ⟨_, rfl⟩⟩
      · rw [if_neg hp]
        exact ⟨fun ⟨_, h⟩ => (nomatch h), fun h => h.elim (fun h => absurd (Option.some.inj h) h0) (absurd · hp)⟩
  · exact ⟨fun ⟨_, hr⟩ => absurd (parse_length hr) hl, fun h => absurd h.1 hl⟩

theorem serialize_of_normal (ck : Bytes → Bytes) (key chainCode fp : Bytes) (depth index version : Nat)
    (isPrivate : Bool) (hnorm : depth ≠ 0 ∨ (fp = ser32 0 ∧ index = 0)) :
    serialize ck key chainCode fp depth index version isPrivate =
      Base58Check.encode ck (ser32 version ++ [UInt8.ofNat depth] ++ fp ++ ser32 index ++ chainCode ++
        ((if isPrivate = true then ([0] : Bytes) else []) ++ key)) := by
  rw [serialize_eq]
  rcases hnorm with h | ⟨h1, h2⟩
  · rw [if_neg h, if_neg h]
  · rw [h1, h2, ite_self, ite_self]

/-- canonicity: an accepted string is the serialization of the fields it yields, unless it
    carries depth 0 together with a non-zero fingerprint or index (which `serialize` normalises) -/
theorem serialize_deserialize (ck : Bytes → Bytes) (pubOk : Bytes → Bool) (s : Bytes) (r : Fields)
    (hd : deserialize ck pubOk s = .ok r)
    (hnorm : r.depth ≠ 0 ∨ (r.parentFingerprint = ser32 0 ∧ r.index = 0)) :
    serialize ck r.key r.chainCode r.parentFingerprint r.depth r.index r.version
      (decide (r.key.length = 32)) = s := by
  rw [deserialize_eq] at hd
  obtain ⟨P, _, henc, hr⟩ := CheckPayload.decode_bind_eq_ok hd
  obtain ⟨a, dep, b, c, e, k0, krest, rfl, ha, hb, hc, he, hk⟩ := fields_of_length P (parse_length hr)
  rw [parse_fields pubOk a b c e dep k0 krest ha hb hc he hk] at hr
  rw [serialize_of_normal ck _ _ _ _ _ _ _ hnorm, ← henc]
  -- the key has 32 bytes exactly when the key field was `00 ‖ key`
  split at hr
  · rename_i h0
    obtain rfl := Outcome.ok.inj hr
    simp only [ser32_beNat ha, ser32_beNat hc, UInt8.ofNat_toNat, hk, decide_true, if_true, h0]
    rfl
  · split at hr
    · obtain rfl := Outcome.ok.inj hr
      simp only [ser32_beNat ha, ser32_beNat hc, UInt8.ofNat_toNat, List.length_cons, hk]
      rfl
    · cases hr

theorem parse_ne_panic (pubOk : Bytes → Bool) (P : Bytes) : parse pubOk P ≠ .panic := by
  by_cases hl : P.length = 78
  · obtain ⟨a, dep, b, c, e, k0, krest, rfl, ha, hb, hc, he, hk⟩ := fields_of_length P hl
    rw [parse_fields pubOk a b c e dep k0 krest ha hb hc he hk]
    split
    · exact nofun
    · split <;> exact nofun
  · rw [parse, if_pos hl]; exact nofun

end BtcVerif.Proofs.XKey
