/- C16: ordered streaming and the UTXO scan (re-orderer + consumer).  The blocks handed to the consumer are exactly
`lo, lo+1, …` in order; the consumer-facing channels are closed only after a cancel, after an error was handed
over, or after the whole range was handed over. -/
import BtcVerif.Proofs.StreamSafety

namespace BtcVerif.Model.Stream
open BtcVerif.Gen.Guards

/-- what the re-orderer knows about the next height to release, by phase -/
def RCurOk (P : Params) (s : State) : RPhase → Prop
  | .f0 | .f1 | .f1b | .f2 | .s0 => s.cur = P.lo ∧ s.buf = []
  | .snd h => h = s.cur ∧ P.lo < s.cur ∧ s.cur ≤ P.hi
  | .loop => P.lo < s.cur ∧ s.cur ≤ P.hi
  | .rel => P.lo < s.cur
  | _ => True

structure OrdInv (P : Params) (s : State) : Prop where
  hp : handed s = List.range' P.lo (s.cur - P.lo)
  lo : P.lo ≤ s.cur
  hi : s.cur ≤ P.hi + 1
  rc : RCurOk P s s.rph
  /-- no false success: the re-orderer finishes only for one of these reasons -/
  nfs : s.rph = .fin → s.cancel0 = true ∨ s.cancel1 = true ∨ 0 < errHanded s ∨ s.cur = P.hi + 1
  /-- buffered heights are in the range (so that a height being sent is) -/
  bf : ∀ h ∈ s.buf, h ≤ P.hi
  cn : P.mode = .utxo → s.cnt = s.delivered.length
  /-- `UpdateUtxos` returns nil only when its loop condition fails -/
  rt : s.ret = some true → P.hi < P.lo + s.cnt

theorem OrdInv.rc_at {P s r} (h : OrdInv P s) (hr : s.rph = r) : RCurOk P s r := hr ▸ h.rc

theorem ordInv_init {P : Params} (hP : P.lo ≤ P.hi) (hm : P.mode ≠ .unordered) : OrdInv P (init P) where
  hp := by simp [init, handed]
  lo := Nat.le_refl _
  hi := Nat.le_succ_of_le hP
  rc := by simp [init, hm, RCurOk]
  nfs := by simp [init, hm]
  bf := by simp [init]
  cn := fun _ => rfl
  rt := by simp [init]

theorem mem_insertSorted {h x : Nat} {xs : List Nat} : x ∈ insertSorted h xs ↔ x = h ∨ x ∈ xs := by
  induction xs with
  | nil => simp [insertSorted]
  | cons y ys ih =>
    unfold insertSorted
    split
    · simp
    · simp only [List.mem_cons, ih, or_left_comm]

theorem range'_snoc {lo cur : Nat} (h : lo ≤ cur) :
    List.range' lo (cur - lo) ++ [cur] = List.range' lo (cur + 1 - lo) := by
  rw [Nat.sub_add_comm h, List.range'_concat, Nat.one_mul, Nat.add_sub_cancel' h]

theorem ordInv_step {P : Params} (hm : P.mode ≠ .unordered) {s l s'}
    (h1 : Inv P s) (h : OrdInv P s) (hI : StepI P s l s') : OrdInv P s' where
  hp := by
    have hhp := h.hp
    cases hI with
    | wGiveC _ _ _ _ _ hm' | wErrC _ _ _ _ hm' => exact absurd hm' hm
    | rS0Loop hr hc | rS0Exit hr hc =>
      have hcur : s.cur = P.lo := (h.rc_at hr).1
      simp_all [handed, exitX]
    | rSnd h0 hr hc =>
      have hcur : h0 = s.cur := (h.rc_at hr).1
      simp only [handed, hc, List.append_nil] at hhp
      simp only [handed, hhp, hcur, range'_snoc h.lo]
    | cRetErr hc => rcases hc with hc | hc <;> simpa [handed, hc] using hhp
    | rSendErr _ hc | cCall hc | cRetOk hc | cSeeEnd hc | cDeliver _ hc | cErr hc | cEnd hc =>
      simpa [handed, hc, exitX] using hhp
    | _ => exact hhp
  lo := by
    cases hI with
    | rS0Loop | rS0Exit => exact Nat.le_succ _
    | rSnd => exact Nat.le_succ_of_le h.lo
    | _ => exact h.lo
  hi := by
    cases hI with
    | rS0Loop _ _ hlt => exact Nat.succ_le_succ (Nat.le_of_lt hlt)
    | rS0Exit _ _ he => exact Nat.succ_le_succ (Nat.le_of_eq he)
    | rSnd _ hr => exact Nat.succ_le_succ (h.rc_at hr).2.2
    | _ => exact h.hi
  rc := by
    have hrc := h.rc
    cases hI with
    | rFirst _ _ _ hr hf => cases hf <;> simp_all [RCurOk]
    | rSingle _ hr | rStart _ hr => rwa [hr] at hrc
    | rS0Loop _ _ hlt => exact ⟨Nat.lt_succ_self _, Nat.succ_le_of_lt hlt⟩
    | rRelSend hr _ hb => rw [hr] at hrc; exact ⟨rfl, hrc, h.bf _ hb⟩
    | rRelLoop hr _ _ hle => rw [hr] at hrc; exact ⟨hrc, hle⟩
    | wGiveR _ _ _ _ _ _ hr | rLoopClosed hr => rw [hr] at hrc; exact hrc.1
    | rSnd _ hr => rw [hr] at hrc; exact Nat.lt_succ_of_lt hrc.2.1
    | wErrR | rS0Exit | rLoopCancel | rRelErr | rRelExit | rSendErr => exact trivial
    | _ => exact hrc
  nfs := by
    have hn := h.nfs
    cases hI with
    | rS0Exit _ _ he => exact fun _ => .inr (.inr (.inr (congrArg (· + 1) he)))
    | rLoopCancel _ hc => exact fun _ => (Bool.or_eq_true _ _ ▸ hc).elim .inl (.inr ∘ .inl)
    | rRelExit _ _ _ hlt => exact fun _ => .inr (.inr (.inr (Nat.le_antisymm h.hi hlt)))
    | rSendErr => exact fun _ => .inr (.inr (.inl (Nat.succ_pos _)))
    | rFirst _ _ _ _ hf => cases hf <;> exact nofun
    | wGiveR | wErrR | rSingle | rStart | rS0Loop | rLoopClosed | rRelSend | rRelErr | rRelLoop | rSnd => exact nofun
    | envCancel => exact fun _ => .inl rfl
    | cRetOk | cRetErr => exact fun _ => .inr (.inl rfl)
    | wGiveC _ _ _ _ _ hm' | wErrC _ _ _ _ hm' => exact absurd hm' hm
    | cErr => simp [errHanded]
    | cCall hc | cSeeEnd hc | cDeliver _ hc | cEnd hc => simpa [errHanded, hc] using hn
    | _ => exact hn
  bf := by
    cases hI with
    | wGiveR i w g hw hp =>
      intro x hx
      have hle : w.pos ≤ P.hi := (h1.wok i w hw).2.2 (by simp [hp]) (by simp [hp])
      cases g
      · exact h.bf x hx
      · exact (mem_insertSorted.mp hx).elim (· ▸ hle) (h.bf x)
    | rRelSend => exact fun x hx => h.bf x (List.mem_of_mem_erase hx)
    | _ => exact h.bf
  cn := by
    cases hI with
    | cDeliver => exact fun hu => by simp [hu, h.cn hu]
    | _ => exact h.cn
  rt := by
    cases hI with
    | cRetOk _ _ hn => exact fun _ => Nat.lt_of_not_le hn
    | cRetErr => exact nofun
    | cDeliver _ hc => exact fun hr => by have := h1.cp; rw [hc] at this; rw [this.2.1] at hr; cases hr
    | _ => exact h.rt

theorem reachable_ordInv {P : Params} (hP : P.lo ≤ P.hi) (hm : P.mode ≠ .unordered) {s} (hr : Reachable P s) :
    OrdInv P s := by
  induction hr with
  | init => exact ordInv_init hP hm
  | step hr' hst ih => exact ordInv_step hm (reachable_inv hP hr') ih (step_inv hP hst)

theorem prefix_range' {xs ys : List Nat} {lo k : Nat} (h : xs ++ ys = List.range' lo k) :
    xs = List.range' lo xs.length ∧ xs.length ≤ k := by
  have hl : xs.length + ys.length = k := by simpa using congrArg List.length h
  have : xs = (xs ++ ys).take xs.length := by simp
  rw [h, List.take_range'_of_length_ge (by omega)] at this
  exact ⟨this, by omega⟩

theorem OrdInv.delivered_prefix {P s} (h : OrdInv P s) :
    s.delivered = List.range' P.lo s.delivered.length ∧ s.delivered.length ≤ P.hi + 1 - P.lo := by
  have hp := prefix_range' h.hp
  have := h.hi
  exact ⟨hp.1, by omega⟩

theorem OrdInv.delivered_full {P s} (h : OrdInv P s) (hf : s.cph = .finished) (hc : s.cur = P.hi + 1) :
    s.delivered = fullRange P := by
  have := h.hp
  rwa [handed, hf, List.append_nil, hc] at this

/-- Ordered streaming: an end of the stream that was preceded neither by a cancel nor by an error comes after the whole
range.  The consumer saw the end on a closed stream, so the re-orderer has finished, and `nfs` says why. -/
theorem OrdInv.no_false_success {P s} (h1 : Inv P s) (h2 : OrdInv P s) (hm : P.mode = .ordered)
    (he : s.ended = true) (hc : s.cancel0 = false) (herr : s.errs = 0) : s.delivered = fullRange P := by
  have hf := (h1.ended_iff (by simp [hm])).mp he
  rcases h2.nfs (h1.fin_of_streamClosed (by simp [hm]) (h1.closed_of_end (.inr he))) with h | h | h | h
  · rw [hc] at h; cases h
  · exact absurd (h1.of_cancel1 h).1 (by simp [hm])
  · simp [errHanded, hf, herr] at h
  · exact h2.delivered_full hf h

theorem OrdInv.utxo_success {P s} (h : OrdInv P s) (hu : P.mode = .utxo) (hret : s.ret = some true) :
    s.delivered = fullRange P := by
  have hp := h.delivered_prefix
  have := h.rt hret; have := h.cn hu
  have hl : s.delivered.length = P.hi + 1 - P.lo := by omega
  rw [hp.1, hl, fullRange]

theorem OrdInv.cnt_eq {P s} (h2 : OrdInv P s) (hu : P.mode = .utxo) (hc : handed s = s.delivered) :
    s.cnt = s.cur - P.lo := by
  have := congrArg List.length (hc ▸ h2.hp)
  rw [List.length_range'] at this
  rw [h2.cn hu, this]

end BtcVerif.Model.Stream
