/-
  Headers, transaction streams and blocks: `blockBytes` is what `encBlock` emits, and `decBlock` reads it back.
-/
import BtcVerif.Model.Block
import BtcVerif.Proofs.Tx

namespace BtcVerif.Model
open BtcVerif BtcVerif.Parser
open BtcVerif.Gen.Guards

theorem encHeader_length (h : Header) (hw : WFHeader h) : (encHeader h).length = 80 := by
  simp [encHeader, hw.2.1, hw.2.2.1]

theorem decHeader_enc (h : Header) (rest : Bytes) (hw : WFHeader h) :
    decHeader (encHeader h ++ rest) = .ok (h, rest) := by
  obtain ⟨hv, h1, h2, ht, hb, hn⟩ := hw
  unfold decHeader encHeader
  simp only [List.append_assoc]
  rw [bind_of_ok (readLE_append 4 _ _ hv),
    bind_of_ok (readN_append' 32 _ _ (by rw [List.length_reverse, h1])),
    bind_of_ok (readN_append' 32 _ _ (by rw [List.length_reverse, h2])),
    bind_of_ok (readLE_append 4 _ _ ht), bind_of_ok (readLE_append 4 _ _ hb),
    bind_of_ok (readLE_append 4 _ _ hn), pure_apply, List.reverse_reverse, List.reverse_reverse]

theorem encTxs_of_WF {txs : List Tx} (h : ∀ t ∈ txs, WFTx t) : encTxs txs = .ok (encMany txBytes txs) := by
  induction txs with
  | nil => rfl
  | cons t ts ih =>
    rw [encTxs, encTx_of_WF (h t List.mem_cons_self), ih fun x hx => h x (List.mem_cons_of_mem _ hx)]
    rfl

/-- what `encBlock` emits on a block whose transactions serialise (`encBlock_of_WF`) -/
def blockBytes (b : Block) : Bytes :=
  encHeader b.header ++ (encVarint b.txs.length ++ encMany txBytes b.txs)

theorem encBlock_of_WF {b : Block} (h : WFBlock b) : encBlock b = .ok (blockBytes b) := by
  rw [encBlock, encTxs_of_WF h.2.2]
  exact congrArg Outcome.ok (List.append_assoc ..)

theorem decBlock_blockBytes (b : Block) (rest : Bytes) (h : WFBlock b) :
    decBlock (blockBytes b ++ rest) = .ok (b, rest) := by
  obtain ⟨hh, hn, ht⟩ := h
  unfold decBlock blockBytes
  simp only [List.append_assoc]
  rw [bind_of_ok (decHeader_enc _ _ hh), bind_of_ok (decVarint_encVarint _ _ (by omega)),
    if_neg (by simp [blocks_fromReader_0]; omega),
    bind_of_ok (readMany_enc decTx_txBytes b.txs ht rest)]
  rfl

end BtcVerif.Model
