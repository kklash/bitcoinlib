/-
  C14 — the BIP39 model (`Model/Bip39.lean`) in arithmetic form: `EncodeToWords` looks up the 11-bit
  digits of the number `entropy ‖ checksum`, `DecodeWords` accumulates the positions of the words
  into that number; hence the round trip and the exact accepted set, for ANY list of 2048 distinct
  words and ANY checksum-byte function.
-/
import BtcVerif.Model.Bip39
import BtcVerif.Spec.Bip39
import BtcVerif.Proofs.Digits

namespace BtcVerif.Proofs.Bip39
open BtcVerif BtcVerif.Model.Bip39 BtcVerif.Gen.Guards BtcVerif.Proofs.Digits

theorem bytesToNat_snoc (bs : Bytes) (b : UInt8) :
    bytesToNat (bs ++ [b]) = bytesToNat bs * 256 + b.toNat := by
  simp [bytesToNat, List.foldl_append]

theorem bytesToNat_eq_beNat (bs : Bytes) : bytesToNat bs = beNat bs := by
  have h : ∀ l : Bytes, leNat l = bytesToNat l.reverse := by
    intro l
    induction l with
    | nil => rfl
    | cons b l ih => rw [List.reverse_cons, bytesToNat_snoc, leNat, ih]; omega
  rw [beNat, h, List.reverse_reverse]

theorem natToBytes_eq_beBytes (len n : Nat) : natToBytes len n = beBytes len n := by
  induction len generalizing n with
  | zero => rfl
  | succ k ih => rw [natToBytes, ih, beBytes, beBytes, leBytes, List.reverse_cons]

theorem natToBytes_length (len n : Nat) : (natToBytes len n).length = len := by
  rw [natToBytes_eq_beBytes, beBytes_length]

theorem bytesToNat_natToBytes_of_lt (len n : Nat) (h : n < 256 ^ len) :
    bytesToNat (natToBytes len n) = n := by
  rw [natToBytes_eq_beBytes, bytesToNat_eq_beNat, beNat_beBytes len n h]

theorem natToBytes_bytesToNat (bs : Bytes) : natToBytes bs.length (bytesToNat bs) = bs := by
  rw [natToBytes_eq_beBytes, bytesToNat_eq_beNat, beBytes_beNat]

theorem bytesToNat_lt (bs : Bytes) : bytesToNat bs < 256 ^ bs.length := by
  rw [bytesToNat_eq_beNat, beNat, ← List.length_reverse]
  exact leNat_lt bs.reverse

theorem fillBytes_bytesToNat (bs : Bytes) : fillBytes (bytesToNat bs) bs.length = .ok bs := by
  simp [fillBytes, bytesToNat_lt, natToBytes_bytesToNat]

def accBits (is : List Nat) (p : Nat) : Nat := is.foldl (fun acc i => (acc <<< 11) ||| i) p

theorem accBits_eq (is : List Nat) (h : ∀ i ∈ is, i < 2048) : accBits is 0 = ofDigits 2048 is := by
  have : ∀ p, accBits is p = is.foldl (fun v d => v * 2048 + d) p := by
    induction is with
    | nil => intro p; rfl
    | cons i is ih =>
      intro p
      have hi : i < 2 ^ 11 := h i (by simp)
      simp only [accBits, List.foldl_cons]
      rw [shl_or _ _ _ hi]
      exact ih (fun j hj => h j (by simp [hj])) _
  exact this 0

theorem indices_succ (n p : Nat) : indices (n + 1) p = indices n (p / 2048) ++ [p % 2048] := by
  have h : elevenMask = 2 ^ 11 - 1 := by decide
  rw [indices, h, Nat.and_two_pow_sub_one_eq_mod, Nat.shiftRight_eq_div_pow]

theorem indices_length (n p : Nat) : (indices n p).length = n := by
  induction n generalizing p with
  | zero => rfl
  | succ k ih => simp [indices_succ, ih]

theorem indices_lt (n p : Nat) : ∀ i ∈ indices n p, i < 2048 := by
  induction n generalizing p with
  | zero => intro i hi; cases hi
  | succ k ih =>
    intro i hi
    rw [indices_succ, List.mem_append, List.mem_singleton] at hi
    rcases hi with hi | rfl
    · exact ih _ i hi
    · exact Nat.mod_lt _ (by decide)

theorem ofDigits_indices (n p : Nat) : ofDigits 2048 (indices n p) = p % 2048 ^ n := by
  induction n generalizing p with
  | zero => simp [indices, ofDigits, Nat.mod_one]
  | succ k ih =>
    rw [indices_succ, ofDigits_snoc, ih, Nat.pow_succ, Nat.mul_comm (2048 ^ k) 2048, Nat.mod_mul,
      Nat.mul_comm, Nat.add_comm]

theorem indices_ofDigits (is : List Nat) (hl : ∀ i ∈ is, i < 2048) :
    indices is.length (ofDigits 2048 is) = is :=
  ofDigits_inj 2048 _ _ (indices_length _ _) (indices_lt _ _) hl
    (by rw [ofDigits_indices, Nat.mod_eq_of_lt (ofDigits_lt 2048 is hl)])

/-- the lookup the map built by `init` performs, as a scan: the last match wins -/
def scan : List Bytes → Nat → Bytes → Option Nat → Option Nat
  | [], _, _, acc => acc
  | x :: t, i, w, acc => scan t (i + 1) w (if x = w then some i else acc)

theorem buildMap_get (wl : List Bytes) (i : Nat) (m : WordMap) (w : Bytes) :
    (buildMap wl i m)[w]? = scan wl i w m[w]? := by
  induction wl generalizing i m with
  | nil => rfl
  | cons x t ih =>
    simp only [buildMap, scan, ih, Std.HashMap.getElem?_insert]
    congr 1
    by_cases h : x = w <;> simp [h]

theorem wordMapOf_get (wl : List Bytes) (w : Bytes) : (wordMapOf wl)[w]? = scan wl 0 w none := by
  simp [wordMapOf, buildMap_get]

theorem scan_not_mem (t : List Bytes) (i : Nat) (w : Bytes) (acc : Option Nat) (h : w ∉ t) :
    scan t i w acc = acc := by
  induction t generalizing i acc with
  | nil => rfl
  | cons x t ih =>
    have hx : x ≠ w := fun e => h (by simp [e])
    simp only [scan, hx, if_false]
    exact ih _ _ (fun hm => h (by simp [hm]))

theorem scan_some (wl : List Bytes) (i : Nat) (w : Bytes) (acc : Option Nat) (k : Nat)
    (h : scan wl i w acc = some k) : acc = some k ∨ (i ≤ k ∧ wl[k - i]? = some w) := by
  induction wl generalizing i acc with
  | nil => exact Or.inl h
  | cons x t ih =>
    simp only [scan] at h
    rcases ih _ _ h with h1 | ⟨h1, h2⟩
    · by_cases hx : x = w
      · simp only [hx, if_true] at h1
        injection h1 with h1
        subst h1; right; simp [hx]
      · simp only [hx, if_false] at h1; exact Or.inl h1
    · right
      refine ⟨by omega, ?_⟩
      have : k - i = (k - (i + 1)) + 1 := by omega
      rw [this]; simpa using h2

theorem scan_nodup (wl : List Bytes) (hn : wl.Nodup) (i j : Nat) (w : Bytes) (acc : Option Nat)
    (h : wl[j]? = some w) : scan wl i w acc = some (i + j) := by
  induction wl generalizing i j acc with
  | nil => simp at h
  | cons x t ih =>
    have hn' := List.nodup_cons.mp hn
    cases j with
    | zero =>
      simp at h; subst h
      simp only [scan, if_true]
      rw [scan_not_mem t _ _ _ hn'.1]; simp
    | succ j' =>
      simp at h
      have hw : w ∈ t := List.mem_of_getElem? h
      have hx : x ≠ w := fun e => hn'.1 (e ▸ hw)
      simp only [scan, hx, if_false]
      rw [ih hn'.2 (i + 1) j' acc h]
      congr 1; omega

theorem map_sound (wl : List Bytes) (w : Bytes) (k : Nat) (h : (wordMapOf wl)[w]? = some k) :
    wl[k]? = some w := by
  rw [wordMapOf_get] at h
  rcases scan_some wl 0 w none k h with h1 | ⟨_, h2⟩
  · cases h1
  · simpa using h2

theorem map_iff (wl : List Bytes) (hn : wl.Nodup) (w : Bytes) (k : Nat) :
    (wordMapOf wl)[w]? = some k ↔ wl[k]? = some w :=
  ⟨map_sound wl w k, fun h => by simpa [wordMapOf_get] using scan_nodup wl hn 0 k w none h⟩

inductive All₂ {α β : Type} (R : α → β → Prop) : List α → List β → Prop
  | nil : All₂ R [] []
  | cons {a b l₁ l₂} : R a b → All₂ R l₁ l₂ → All₂ R (a :: l₁) (b :: l₂)

theorem All₂.length_eq {α β : Type} {R : α → β → Prop} {l₁ : List α} {l₂ : List β}
    (h : All₂ R l₁ l₂) : l₁.length = l₂.length := by
  induction h with
  | nil => rfl
  | cons _ _ ih => simp [ih]

theorem All₂.flip {α β : Type} {R : α → β → Prop} {S : β → α → Prop} {l₁ : List α} {l₂ : List β}
    (hRS : ∀ a b, R a b → S b a) (h : All₂ R l₁ l₂) : All₂ S l₂ l₁ := by
  induction h with
  | nil => exact .nil
  | cons h1 _ ih => exact .cons (hRS _ _ h1) ih

theorem All₂.right_forall {α β : Type} {R : α → β → Prop} {P : β → Prop} {l₁ : List α} {l₂ : List β}
    (hP : ∀ a b, R a b → P b) (h : All₂ R l₁ l₂) : ∀ b ∈ l₂, P b := by
  induction h with
  | nil => intro b hb; cases hb
  | cons h1 _ ih =>
    intro b hb
    rcases List.mem_cons.mp hb with rfl | hb
    · exact hP _ _ h1
    · exact ih b hb

/-- both loops look every element up in a partial table (`lookupAll` positions in the list, `accumulate`
    words in the map), and `mapM` succeeds with the list of what was found -/
theorem mapM_eq_some_iff {α β : Type} (f : α → Option β) (l : List α) (l' : List β) :
    l.mapM f = some l' ↔ All₂ (fun a b => f a = some b) l l' := by
  induction l generalizing l' with
  | nil => exact ⟨fun h => Option.some.inj h ▸ .nil, fun h => by cases h; rfl⟩
  | cons a l ih =>
    simp only [List.mapM_cons, Option.bind_eq_bind, Option.bind_eq_some_iff, Option.pure_def, Option.some.injEq]
    constructor
    · rintro ⟨b, hb, bs, hbs, rfl⟩
      exact .cons hb ((ih bs).mp hbs)
    · rintro (_ | ⟨hb, hrest⟩)
      exact ⟨_, hb, _, (ih _).mpr hrest, rfl⟩

theorem lookupAll_eq (wl : List Bytes) (is : List Nat) :
    lookupAll wl is = (is.mapM fun i => wl[i]?).elim .panic .ok := by
  induction is with
  | nil => rfl
  | cons i is ih =>
    rw [lookupAll, ih, List.mapM_cons]
    cases wl[i]? with
    | none => rfl
    | some w => cases is.mapM fun i => wl[i]? <;> rfl

theorem lookupAll_ok_iff (wl : List Bytes) (is : List Nat) (ws : List Bytes) :
    lookupAll wl is = .ok ws ↔ All₂ (fun i w => wl[i]? = some w) is ws := by
  rw [lookupAll_eq, ← mapM_eq_some_iff]
  cases is.mapM fun i => wl[i]? <;> simp [Option.elim]

theorem lookupAll_total (wl : List Bytes) (is : List Nat) (h : ∀ i ∈ is, i < wl.length) :
    ∃ ws, lookupAll wl is = .ok ws := by
  induction is with
  | nil => exact ⟨[], rfl⟩
  | cons i is ih =>
    obtain ⟨ws, hws⟩ := ih (fun j hj => h j (by simp [hj]))
    have hi : i < wl.length := h i (by simp)
    refine ⟨wl[i] :: ws, ?_⟩
    simp only [lookupAll, List.getElem?_eq_getElem hi, hws]

theorem accumulate_eq (wm : WordMap) (ws : List Bytes) (p : Nat) :
    accumulate wm ws p = (ws.mapM fun w => wm[w]?).map (accBits · p) := by
  induction ws generalizing p with
  | nil => rfl
  | cons w ws ih =>
    rw [accumulate, List.mapM_cons]
    cases wm[w]? with
    | none => rfl
    | some i =>
      simp only [bip39_DecodeWords_5, Option.isSome_some, Bool.not_true, Bool.false_eq_true, if_false, ih]
      cases ws.mapM fun w => wm[w]? <;> rfl

theorem accumulate_some_iff (wm : WordMap) (ws : List Bytes) (p q : Nat) :
    accumulate wm ws p = some q ↔
      ∃ is, All₂ (fun w i => wm[w]? = some i) ws is ∧ q = accBits is p := by
  simp only [accumulate_eq, Option.map_eq_some_iff, mapM_eq_some_iff, eq_comm (a := q)]

def ValidLen (L : Nat) : Prop := L = 16 ∨ L = 20 ∨ L = 24 ∨ L = 28 ∨ L = 32

def ValidCount (n : Nat) : Prop := n = 12 ∨ n = 15 ∨ n = 18 ∨ n = 21 ∨ n = 24

instance (L : Nat) : Decidable (ValidLen L) := by unfold ValidLen; infer_instance
instance (n : Nat) : Decidable (ValidCount n) := by unfold ValidCount; infer_instance

/-- `L` bytes of entropy give `L*3/4` words carrying `L/4` checksum bits -/
structure ValidLen.Sizes (L : Nat) : Prop where
  count : ValidCount (L * 3 / 4)
  csBits_eq : L * 3 / 4 / 3 = L / 4
  len_eq : L * 3 / 4 * 4 / 3 = L
  bit_balance : 11 * (L * 3 / 4) = 8 * L + L / 4
  cs_le : L / 4 ≤ 8

theorem ValidLen.sizes {L : Nat} (h : ValidLen L) : ValidLen.Sizes L := by
  rcases h with rfl | rfl | rfl | rfl | rfl <;> constructor <;> decide

/-- from `n` words `DecodeWords` computes `(11n - n/3)/8 = n*4/3` bytes and `n/3` checksum bits -/
structure ValidCount.Sizes (n : Nat) : Prop where
  len_eq : (n * 11 - n / 3) / 8 = n * 4 / 3
  len : ValidLen (n * 4 / 3)
  count_eq : n * 4 / 3 * 3 / 4 = n
  csBits_eq : n * 4 / 3 / 4 = n / 3
  cs_le : n / 3 ≤ 8

theorem ValidCount.sizes {n : Nat} (h : ValidCount n) : ValidCount.Sizes n := by
  rcases h with rfl | rfl | rfl | rfl | rfl <;> constructor <;> decide

/-- `p` is whatever the caller reads the range test as: `ValidLen` of the byte length in
    `EncodeToWords`, `ValidCount` of the word count in `GenerateMnemonic` -/
theorem invalidEntropySize_eq (b : Nat) (p : Prop) [Decidable p]
    (h : (128 ≤ b ∧ b ≤ 256 ∧ b % 32 = 0) ↔ p) : invalidEntropySize (b : Int) = !decide p := by
  rw [Bool.eq_iff_iff]
  simp only [invalidEntropySize, bip39_ValidateEntropySize_0, Bool.or_eq_true, decide_eq_true_eq,
    Bool.not_eq_true', decide_eq_false_iff_not, ← h]
  have : Int.tmod (b : Int) 32 = ((b % 32 : Nat) : Int) := by
    rw [Int.tmod_eq_emod_of_nonneg (by omega)]; omega
  rw [this]
  omega

theorem wordCountOk_eq (n : Nat) : wordCountOk (n : Int) = decide (ValidCount n) := by
  rw [Bool.eq_iff_iff, decide_eq_true_iff]
  simp only [wordCountOk, bip39_DecodeWords_0, bip39_DecodeWords_1, bip39_DecodeWords_2,
    bip39_DecodeWords_3, bip39_DecodeWords_4, Bool.or_eq_true, decide_eq_true_eq, ValidCount,
    or_assoc]
  norm_cast

theorem mask_eq : ∀ k ≤ 8, 0xff >>> (8 - k) = 2 ^ k - 1 := by decide

theorem pow_shape (n L c : Nat) (h : 11 * n = 8 * L + c) : 2048 ^ n = 256 ^ L * 2 ^ c := by
  have h1 : (2048 : Nat) = 2 ^ 11 := by decide
  have h2 : (256 : Nat) = 2 ^ 8 := by decide
  rw [h1, h2, ← Nat.pow_mul, ← Nat.pow_mul, ← Nat.pow_add, h]

/-- the checksum bits `EncodeToWords` appends -/
def csBits (csByte : Bytes → UInt8) (e : Bytes) : Nat := (csByte e).toNat >>> (8 - e.length / 4)

/-- entropy ‖ checksum as a number -/
def payloadOf (csByte : Bytes → UInt8) (e : Bytes) : Nat :=
  bytesToNat e * 2 ^ (e.length / 4) + csBits csByte e

theorem csBits_lt (csByte : Bytes → UInt8) (e : Bytes) (h : e.length / 4 ≤ 8) :
    csBits csByte e < 2 ^ (e.length / 4) := by
  rw [csBits, Nat.shiftRight_eq_div_pow, Nat.div_lt_iff_lt_mul (Nat.pow_pos (by decide)),
    ← Nat.pow_add, Nat.add_sub_cancel' h]
  exact (csByte e).toNat_lt

theorem payloadOf_div (csByte : Bytes → UInt8) (e : Bytes) (h : e.length / 4 ≤ 8) :
    payloadOf csByte e / 2 ^ (e.length / 4) = bytesToNat e := by
  rw [payloadOf, Nat.mul_comm, Nat.mul_add_div (Nat.pow_pos (by decide)),
    Nat.div_eq_of_lt (csBits_lt csByte e h), Nat.add_zero]

theorem payloadOf_mod (csByte : Bytes → UInt8) (e : Bytes) (h : e.length / 4 ≤ 8) :
    payloadOf csByte e % 2 ^ (e.length / 4) = csBits csByte e := by
  rw [payloadOf, Nat.mul_comm, Nat.mul_add_mod, Nat.mod_eq_of_lt (csBits_lt csByte e h)]

theorem payloadOf_lt (csByte : Bytes → UInt8) (e : Bytes) (hv : ValidLen e.length) :
    payloadOf csByte e < 2048 ^ (e.length * 3 / 4) := by
  rw [pow_shape _ _ _ hv.sizes.bit_balance, ← Nat.div_lt_iff_lt_mul (Nat.pow_pos (by decide)),
    payloadOf_div _ _ hv.sizes.cs_le]
  exact bytesToNat_lt e

theorem encode_eq (wl : List Bytes) (csByte : Bytes → UInt8) (e : Bytes) :
    encode wl csByte e =
      if ValidLen e.length then lookupAll wl (indices (e.length * 3 / 4) (payloadOf csByte e))
      else .err := by
  have hg : (128 ≤ e.length * 8 ∧ e.length * 8 ≤ 256 ∧ e.length * 8 % 32 = 0) ↔ ValidLen e.length :=
    ⟨fun h => by unfold ValidLen; omega, fun h => by rcases h with h | h | h | h | h <;> rw [h] <;> decide⟩
  rw [encode, invalidEntropySize_eq _ _ hg]
  by_cases hv : ValidLen e.length
  · have h1 : e.length * 8 / 32 = e.length / 4 := Nat.mul_div_mul_right _ 4 (by decide)
    have h2 : (e.length * 8 + e.length / 4) / 11 = e.length * 3 / 4 := by
      rw [Nat.mul_comm, ← hv.sizes.bit_balance, Nat.mul_div_cancel_left _ (by decide)]
    have hlt := csBits_lt csByte e hv.sizes.cs_le
    simp only [hv, decide_true, Bool.not_true, Bool.false_eq_true, if_false, if_true, h1, h2]
    rw [csBits] at hlt
    rw [shl_or _ _ _ hlt]
    rfl
  · simp only [hv, decide_false, Bool.not_false, if_true, if_false]

/-- `DecodeWords`, with the guards as propositions and shifts and masks as arithmetic -/
theorem decode_eq (wm : WordMap) (csByte : Bytes → UInt8) (ws : List Bytes) :
    decode wm csByte ws =
      if ValidCount ws.length then
        match accumulate wm ws 0 with
        | none => .err
        | some P =>
          if P / 2 ^ (ws.length / 3) < 256 ^ (ws.length * 4 / 3) then
            if P % 2 ^ (ws.length / 3) =
                (csByte (natToBytes (ws.length * 4 / 3) (P / 2 ^ (ws.length / 3)))).toNat >>> (8 - ws.length / 3)
            then .ok (natToBytes (ws.length * 4 / 3) (P / 2 ^ (ws.length / 3)))
            else .err
          else .panic
      else .err := by
  rw [decode, wordCountOk_eq]
  by_cases hc : ValidCount ws.length
  · have h8 := hc.sizes.cs_le
    simp only [hc, decide_true, Bool.not_true, Bool.false_eq_true, if_false, if_true, hc.sizes.len_eq]
    cases accumulate wm ws 0 with
    | none => rfl
    | some P =>
      -- the mask `0xff >> (8-c)` is `2^c - 1`, and `c ≤ 8`, so the conversion to a byte loses nothing
      have hm : (P &&& 0xff >>> (8 - ws.length / 3)) % 256 = P % 2 ^ (ws.length / 3) := by
        rw [mask_eq _ h8, Nat.and_two_pow_sub_one_eq_mod]
        exact Nat.mod_eq_of_lt (Nat.lt_of_lt_of_le (Nat.mod_lt _ (Nat.pow_pos (by decide)))
          (Nat.pow_le_pow_right (by decide) h8 : 2 ^ (ws.length / 3) ≤ 2 ^ 8))
      simp only [hm, Nat.shiftRight_eq_div_pow P, fillBytes, bip39_DecodeWords_6]
      by_cases hfit : P / 2 ^ (ws.length / 3) < 256 ^ (ws.length * 4 / 3)
      · simp only [hfit, if_true, decide_eq_true_eq, ne_eq, ite_not]
      · simp only [hfit, if_false]
  · simp only [hc, decide_false, Bool.not_false, if_true, if_false]

theorem payloadOf_eq {csByte : Bytes → UInt8} {e : Bytes} {P c : Nat} (hc : e.length / 4 = c)
    (hd : bytesToNat e = P / 2 ^ c) (hm : P % 2 ^ c = (csByte e).toNat >>> (8 - c)) :
    payloadOf csByte e = P := by
  rw [payloadOf, csBits, hc, hd, ← hm, Nat.mul_comm]
  exact Nat.div_add_mod P _

theorem decode_ok_iff (wm : WordMap) (csByte : Bytes → UInt8) (ws : List Bytes) (e : Bytes) :
    decode wm csByte ws = .ok e ↔
      ValidLen e.length ∧ ws.length = e.length * 3 / 4 ∧
        accumulate wm ws 0 = some (payloadOf csByte e) := by
  constructor
  · intro h
    rw [decode_eq] at h
    split at h
    · rename_i hc
      split at h
      · cases h
      · rename_i P hacc
        split at h
        · rename_i hfit
          split at h
          · rename_i hcs
            obtain rfl := Outcome.ok.inj h
            have hlen := natToBytes_length (ws.length * 4 / 3) (P / 2 ^ (ws.length / 3))
            refine ⟨by rw [hlen]; exact hc.sizes.len, by rw [hlen, hc.sizes.count_eq], ?_⟩
            rw [hacc, payloadOf_eq (by rw [hlen, hc.sizes.csBits_eq]) (bytesToNat_natToBytes_of_lt _ _ hfit) hcs]
          · cases h
        · cases h
    · cases h
  · rintro ⟨hv, hlen, hacc⟩
    have s := hv.sizes
    rw [decode_eq, hacc, hlen, if_pos s.count]
    simp only [s.csBits_eq, s.len_eq, payloadOf_div _ _ s.cs_le, payloadOf_mod _ _ s.cs_le,
      natToBytes_bytesToNat, bytesToNat_lt, if_true, csBits]

theorem accumulate_bound (wl : List Bytes) (ws : List Bytes) (P : Nat)
    (h : accumulate (wordMapOf wl) ws 0 = some P) :
    ∃ is, All₂ (fun i w => wl[i]? = some w) is ws ∧ (∀ i ∈ is, i < wl.length) ∧
      P = accBits is 0 := by
  obtain ⟨is, hf, hP⟩ := (accumulate_some_iff _ _ _ _).mp h
  exact ⟨is, hf.flip (map_sound wl), hf.right_forall fun w i hi =>
    (List.getElem?_eq_some_iff.mp (map_sound wl w i hi)).1, hP⟩

theorem lookupAll_iff_accumulate (wl : List Bytes) (hlen : wl.length = 2048) (hnd : wl.Nodup)
    (n P : Nat) (hP : P < 2048 ^ n) (ws : List Bytes) :
    lookupAll wl (indices n P) = .ok ws ↔
      ws.length = n ∧ accumulate (wordMapOf wl) ws 0 = some P := by
  constructor
  · intro h
    have hall := (lookupAll_ok_iff _ _ _).mp h
    refine ⟨by rw [← hall.length_eq, indices_length], (accumulate_some_iff _ _ _ _).mpr
      ⟨_, hall.flip fun i w hi => (map_iff wl hnd w i).mpr hi, ?_⟩⟩
    rw [accBits_eq _ (indices_lt _ _), ofDigits_indices, Nat.mod_eq_of_lt hP]
  · rintro ⟨hn, hacc⟩
    obtain ⟨is, hf, hlt, hPeq⟩ := accumulate_bound wl ws P hacc
    rw [hlen] at hlt
    rw [← hn, hPeq, accBits_eq _ hlt, ← hf.length_eq, indices_ofDigits is hlt]
    exact (lookupAll_ok_iff _ _ _).mpr hf

theorem accepts_iff (wl : List Bytes) (hlen : wl.length = 2048) (hnd : wl.Nodup)
    (csByte : Bytes → UInt8) (e : Bytes) (ws : List Bytes) :
    decode (wordMapOf wl) csByte ws = .ok e ↔ encode wl csByte e = .ok ws := by
  rw [decode_ok_iff, encode_eq]
  by_cases hv : ValidLen e.length
  · rw [if_pos hv, lookupAll_iff_accumulate wl hlen hnd _ _ (payloadOf_lt csByte e hv)]
    exact and_iff_right hv
  · simp [hv]

theorem encode_ok_length {wl : List Bytes} {csByte : Bytes → UInt8} {e : Bytes} {ws : List Bytes}
    (h : encode wl csByte e = .ok ws) : ValidLen e.length ∧ ws.length = e.length * 3 / 4 := by
  rw [encode_eq] at h
  split at h
  · rename_i hv
    exact ⟨hv, by rw [← ((lookupAll_ok_iff _ _ _).mp h).length_eq, indices_length]⟩
  · cases h

theorem decode_ok_shape (wl : List Bytes) (hlen : wl.length = 2048) (hnd : wl.Nodup)
    (csByte : Bytes → UInt8) (ws : List Bytes) (e : Bytes)
    (h : decode (wordMapOf wl) csByte ws = .ok e) :
    ValidCount ws.length ∧ ValidLen e.length ∧ ws.length = e.length * 3 / 4 ∧ (∀ w ∈ ws, w ∈ wl) ∧
      All₂ (fun i w => wl[i]? = some w) (indices ws.length (payloadOf csByte e)) ws := by
  have henc := (accepts_iff wl hlen hnd csByte e ws).mp h
  obtain ⟨hv, hn⟩ := encode_ok_length henc
  rw [encode_eq, if_pos hv, ← hn] at henc
  have hall := (lookupAll_ok_iff _ _ _).mp henc
  exact ⟨hn ▸ hv.sizes.count, hv, hn, hall.right_forall fun i w hi => List.mem_of_getElem? hi, hall⟩

theorem encode_total (wl : List Bytes) (hlen : wl.length = 2048) (csByte : Bytes → UInt8) (e : Bytes)
    (hv : ValidLen e.length) : ∃ ws, encode wl csByte e = .ok ws := by
  rw [encode_eq, if_pos hv]
  exact lookupAll_total wl _ fun i hi => by rw [hlen]; exact indices_lt _ _ i hi

/-- `DecodeWords` cannot panic: the number always fits the buffer `FillBytes` is given -/
theorem decode_ne_panic (wl : List Bytes) (hlen : wl.length = 2048) (csByte : Bytes → UInt8)
    (ws : List Bytes) : decode (wordMapOf wl) csByte ws ≠ .panic := by
  rw [decode_eq]
  split
  · rename_i hc
    have s := hc.sizes
    split
    · simp
    · rename_i P hacc
      obtain ⟨is, hf, hlt, hPeq⟩ := accumulate_bound wl ws P hacc
      rw [hlen] at hlt
      have hPlt : P < 2048 ^ ws.length := by
        rw [hPeq, accBits_eq _ hlt, ← hf.length_eq]; exact ofDigits_lt 2048 is hlt
      have hs := s.len.sizes.bit_balance
      rw [s.count_eq, s.csBits_eq] at hs
      rw [pow_shape _ _ _ hs, ← Nat.div_lt_iff_lt_mul (Nat.pow_pos (by decide))] at hPlt
      rw [if_pos hPlt]
      split <;> simp
  · simp

theorem encode_ne_panic (wl : List Bytes) (hlen : wl.length = 2048) (csByte : Bytes → UInt8)
    (e : Bytes) : encode wl csByte e ≠ .panic := by
  by_cases hv : ValidLen e.length
  · obtain ⟨ws, h⟩ := encode_total wl hlen csByte e hv
    rw [h]; simp
  · rw [encode_eq, if_neg hv]; simp

/-- `nWords * 32 / 3` in Go's 64-bit `int`: no wrap-around below `2^58` words (the modulus is `2^64`) -/
theorem mnemonic_bitSize (n : Nat) (hn : n < 288230376151711744) :
    Int.tdiv (BtcVerif.Gen.wrapS 18446744073709551616 ((n : Int) * 32)) 3
      = ((n * 32 / 3 : Nat) : Int) := by
  have t1 : (0 : Int) ≤ (n : Int) * 32 := by omega
  have t2 : 2 * ((n : Int) * 32) < ((18446744073709551616 : Nat) : Int) := by omega
  rw [BtcVerif.Gen.wrapS_of_small _ _ t1 t2]
  clear t2 hn
  rw [Int.tdiv_eq_ediv_of_nonneg t1]
  omega

theorem generateMnemonic_eq (wl : List Bytes) (csByte : Bytes → UInt8) (rand : Bytes) (n : Nat)
    (hn : n < 288230376151711744) :
    generateMnemonic wl csByte rand (n : Int) =
      if ValidCount n ∧ n * 4 / 3 ≤ rand.length then encode wl csByte (rand.take (n * 4 / 3))
      else .err := by
  have hg : (128 ≤ n * 32 / 3 ∧ n * 32 / 3 ≤ 256 ∧ n * 32 / 3 % 32 = 0) ↔ ValidCount n :=
    ⟨fun h => by unfold ValidCount; omega, fun h => by rcases h with rfl | rfl | rfl | rfl | rfl <;> decide⟩
  rw [generateMnemonic, mnemonic_bitSize n hn, generateFrom, generateEntropy,
    invalidEntropySize_eq _ _ hg]
  by_cases hc : ValidCount n
  · have hl : (((n * 32 / 3 : Nat) : Int) / 8).toNat = n * 4 / 3 := by
      rcases hc with rfl | rfl | rfl | rfl | rfl <;> rfl
    rw [hl, Parser.readN_eq]
    by_cases hr : n * 4 / 3 ≤ rand.length
    · simp [hc, hr]
    · simp [hc, hr]
  · simp [hc]

theorem generateMnemonic_ok (wl : List Bytes) (csByte : Bytes → UInt8) (rand : Bytes) (n : Nat)
    (hn : n < 288230376151711744) (ws : List Bytes)
    (h : generateMnemonic wl csByte rand (n : Int) = .ok ws) :
    ValidCount n ∧ ws.length = n ∧ n * 4 / 3 ≤ rand.length := by
  rw [generateMnemonic_eq _ _ _ _ hn] at h
  split at h
  · rename_i hc
    refine ⟨hc.1, ?_, hc.2⟩
    rw [(encode_ok_length h).2, List.length_take, Nat.min_eq_left hc.2, hc.1.sizes.count_eq]
  · cases h

theorem generateMnemonic_succeeds (wl : List Bytes) (hlen : wl.length = 2048) (hnd : wl.Nodup)
    (csByte : Bytes → UInt8) (rand : Bytes) (n : Nat) (hc : ValidCount n)
    (hr : n * 4 / 3 ≤ rand.length) :
    ∃ ws, generateMnemonic wl csByte rand (n : Int) = .ok ws ∧ ws.length = n ∧
      decode (wordMapOf wl) csByte ws = .ok (rand.take (n * 4 / 3)) := by
  have hn : n < 288230376151711744 := by unfold ValidCount at hc; omega
  have hl : (rand.take (n * 4 / 3)).length = n * 4 / 3 := by rw [List.length_take, Nat.min_eq_left hr]
  obtain ⟨ws, hws⟩ := encode_total wl hlen csByte (rand.take (n * 4 / 3)) (hl.symm ▸ hc.sizes.len)
  have hgen : generateMnemonic wl csByte rand (n : Int) = .ok ws := by
    rw [generateMnemonic_eq _ _ _ _ hn, if_pos ⟨hc, hr⟩, hws]
  exact ⟨ws, hgen, (generateMnemonic_ok wl csByte rand n hn ws hgen).2.1,
    (accepts_iff wl hlen hnd csByte _ ws).mpr hws⟩

theorem saltPrefix_eq : utf8 BtcVerif.Gen.bip39_SeedSaltPrefix = Spec.Bip39.saltPrefix := by
  decide +kernel

end BtcVerif.Proofs.Bip39
