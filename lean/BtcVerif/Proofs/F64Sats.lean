/-
  C15 — satoshi ↔ BTC conversion is lossless over the exact rounding model:
  `bitcoinsToSats (satsToBitcoins s) = s` for every `s ≤ 21·10^14`.

  `SatsToBitcoins` rounds `s/10^8` to 64 bits (big.Float) and then to 53 (Float64());
  `BitcoinsToSats` multiplies by 10^8 (one more rounding to 53 bits) and rounds to the nearest
  integer. Three relative errors of at most 2^-64, 2^-53, 2^-53 on a value below 0.94·2^51 stay
  below 1/2 in total, so `math.Round` lands on `s` again.
-/
import BtcVerif.Proofs.F64
import BtcVerif.Model.Fee

namespace BtcVerif.Proofs.F64Sats
open BtcVerif BtcVerif.Prim BtcVerif.Model.Fee BtcVerif.Proofs.F64

/-- `float64(100000000)`: the 53-bit mantissa `10^8 · 2^26` with exponent `-26`; every `26` below is this
    exponent -/
theorem ofNat_1e8 : F64.ofNat 100000000 = .fin false 6710886400000000 (-26) := by decide

theorem div_pow_eq (m : ℕ) (e : ℤ) (he : e ≤ 0) :
    (m : ℚ) / ((2 ^ (-e).toNat : ℕ) : ℚ) = (m : ℚ) * (2 : ℚ) ^ e := by
  rw [two_zpow_of_nonpos he, mul_one_div, Nat.cast_pow, Nat.cast_ofNat]

theorem mul_fin (s t : Bool) (m n : ℕ) {e f : ℤ} (h : e + f ≤ 0) :
    F64.mul (.fin s m e) (.fin t n f) = F64.ofRat (s != t) (m * n) (2 ^ (-(e + f)).toNat) ∧
    ((m * n : ℕ) : ℚ) / ((2 ^ (-(e + f)).toNat : ℕ) : ℚ) = (m : ℚ) * (2 : ℚ) ^ e * ((n : ℚ) * (2 : ℚ) ^ f) := by
  refine ⟨ofScaled_of_nonpos _ _ h, ?_⟩
  rw [div_pow_eq _ _ h, zpow_add₀ two_ne_zero, Nat.cast_mul]
  ring

/-- `math.Round` on a value within 1/2 of the integer `s` -/
theorem round_half (m k s : ℕ) (hk : 1 ≤ k) (h : |(m : ℚ) / (2 : ℚ) ^ k - s| < 1 / 2) :
    (m + 2 ^ (k - 1)) / 2 ^ k = s := by
  obtain ⟨j, rfl⟩ : ∃ j, k = j + 1 := ⟨k - 1, by omega⟩
  obtain ⟨h1, h2⟩ := abs_lt.mp h
  have hT : (0 : ℚ) < 2 * 2 ^ j := by positivity
  rw [pow_succ, mul_comm, lt_sub_iff_add_lt, lt_div_iff₀ hT] at h1
  rw [pow_succ, mul_comm, sub_lt_iff_lt_add, div_lt_iff₀ hT] at h2
  have hlo : s * (2 * 2 ^ j) ≤ m + 2 ^ j := by
    have : ((s * (2 * 2 ^ j) : ℕ) : ℚ) ≤ ((m + 2 ^ j : ℕ) : ℚ) := by push_cast; linarith
    exact_mod_cast this
  have hhi : m + 2 ^ j < (s + 1) * (2 * 2 ^ j) := by
    have : ((m + 2 ^ j : ℕ) : ℚ) < (((s + 1) * (2 * 2 ^ j) : ℕ) : ℚ) := by push_cast; linarith
    exact_mod_cast this
  rw [Nat.add_sub_cancel, pow_succ, mul_comm]
  exact Nat.div_eq_of_lt_le hlo hhi

theorem round_of_near (m : ℕ) (e : ℤ) (s : ℕ) (he : e < 0) (h : |(m : ℚ) * (2 : ℚ) ^ e - s| < 1 / 2) :
    F64.round (.fin false m e) = F64.ofNat s := by
  rw [← div_pow_eq m e he.le, Nat.cast_pow, Nat.cast_ofNat] at h
  unfold F64.round
  simp only
  rw [if_neg (by omega), round_half m (-e).toNat s (by omega) h]
  rfl

theorem btc_range (s : ℕ) (hs0 : 0 < s) (hs : s ≤ 2100000000000000) :
    (2 : ℚ) ^ (-27 : ℤ) ≤ (s : ℚ) / 100000000 ∧ (s : ℚ) / 100000000 < (2 : ℚ) ^ (25 : ℤ) := by
  have hsq0 : (1 : ℚ) ≤ s := by exact_mod_cast hs0
  have hsq : (s : ℚ) ≤ 2100000000000000 := by exact_mod_cast hs
  rw [show (2 : ℚ) ^ (-27 : ℤ) = 1 / 134217728 by norm_num, show (2 : ℚ) ^ (25 : ℤ) = 33554432 by norm_num]
  constructor <;> linarith

theorem btc_range_rounded {t x : ℚ} (hlo : (2 : ℚ) ^ (-27 : ℤ) ≤ t) (hhi : t < (2 : ℚ) ^ (25 : ℤ))
    (h : |x - t| ≤ t / 2 ^ 64) : (2 : ℚ) ^ (-28 : ℤ) ≤ x ∧ x < (2 : ℚ) ^ (26 : ℤ) := by
  obtain ⟨ha, hb⟩ := abs_le.mp h
  rw [show (2 : ℚ) ^ (-27 : ℤ) = 1 / 134217728 by norm_num] at hlo
  rw [show (2 : ℚ) ^ (25 : ℤ) = 33554432 by norm_num] at hhi
  rw [show (2 : ℚ) ^ (-28 : ℤ) = 1 / 268435456 by norm_num, show (2 : ℚ) ^ (26 : ℤ) = 67108864 by norm_num]
  constructor <;> linarith

theorem two_roundings {t x1 x2 : ℚ} (ht : 0 ≤ t) (h1 : |x1 - t| ≤ t / 2 ^ 64)
    (h2 : |x2 - x1| ≤ x1 / 2 ^ 53) : |x2 - t| ≤ t * (1 / 2 ^ 53 + 1 / 2 ^ 63) := by
  obtain ⟨h1a, h1b⟩ := abs_le.mp h1
  obtain ⟨h2a, h2b⟩ := abs_le.mp h2
  rw [abs_le]
  constructor <;> linarith

/-- the product `y = 10^8 · x` of a double `x` within the relative error `2^-53 + 2^-63` of `s / 10^8`
    lies in `[1/4, 2^51)`, and one more rounding of `y` to 53 bits ends within 1/2 of `s`:
    `s · (2^-52 + 2^-62) < 1/2` over the monetary range -/
theorem product_near {s x : ℚ} (hs1 : 1 ≤ s) (hs : s ≤ 2100000000000000)
    (hx : |x - s / 100000000| ≤ s / 100000000 * (1 / 2 ^ 53 + 1 / 2 ^ 63)) :
    (2 : ℚ) ^ (-2 : ℤ) ≤ 100000000 * x ∧ 100000000 * x < (2 : ℚ) ^ (51 : ℤ) ∧
    ∀ y3 : ℚ, |y3 - 100000000 * x| ≤ 100000000 * x / 2 ^ 53 → |y3 - s| < 1 / 2 := by
  obtain ⟨ha, hb⟩ := abs_le.mp hx
  rw [show (2 : ℚ) ^ (-2 : ℤ) = 1 / 4 by norm_num, show (2 : ℚ) ^ (51 : ℤ) = 2251799813685248 by norm_num]
  refine ⟨by linarith, by linarith, fun y3 hy3 => ?_⟩
  obtain ⟨hc, hd⟩ := abs_le.mp hy3
  rw [abs_lt]
  constructor <;> linarith

/-- the bound `e2 ≤ 26` only makes the exponent `e2 - 26` of the product non-positive (the callers have
    `e2 ≤ -26`) -/
theorem bitcoinsToSats_of_near (m2 : ℕ) (e2 : ℤ) (s : ℕ) (hs0 : 0 < s) (hs : s ≤ 2100000000000000)
    (hm0 : 0 < m2) (he2 : e2 ≤ 26)
    (hx : |(m2 : ℚ) * (2 : ℚ) ^ e2 - (s : ℚ) / 100000000| ≤
      (s : ℚ) / 100000000 * (1 / 2 ^ 53 + 1 / 2 ^ 63)) :
    bitcoinsToSats (.fin false m2 e2) = some s := by
  obtain ⟨hylo, hyhi, hclose⟩ := product_near (by exact_mod_cast hs0) (by exact_mod_cast hs) hx
  -- the exact product `m2 · 2^e2 · 10^8` is the quotient that `F64.mul` rounds
  obtain ⟨hmul, hq⟩ := mul_fin false false m2 6710886400000000 (e := e2) (f := -26) (by omega)
  rw [show ((6710886400000000 : ℕ) : ℚ) * (2 : ℚ) ^ (-26 : ℤ) = 100000000 by norm_num,
    mul_comm ((m2 : ℚ) * (2 : ℚ) ^ e2)] at hq
  rw [← hq] at hylo hyhi hclose
  obtain ⟨m3, e3, hfin, hm3, _, _, he3, herr⟩ :=
    ofRat_of_range _ _ (Nat.mul_pos hm0 (by omega)) (Nat.two_pow_pos _) hylo hyhi (by omega) (by omega)
  replace hmul := hmul.trans hfin
  have hs53 : s < 2 ^ 53 := by omega
  obtain ⟨k, _, hk⟩ := ofNat_exact s hs0 hs53
  unfold bitcoinsToSats
  rw [show satoshisPerBitcoin = 100000000 from rfl, ofNat_1e8, hmul,
    round_of_near m3 e3 s (by omega) (hclose _ herr), hk]
  exact toUInt64_shift s k (by omega)

theorem satsToBitcoins_form (s : ℕ) (hs0 : 0 < s) (hs : s ≤ 2100000000000000) :
    ∃ (m2 : ℕ) (e2 : ℤ), satsToBitcoins s = .fin false m2 e2 ∧ 0 < m2 ∧ e2 ≤ -26 ∧
      |(m2 : ℚ) * (2 : ℚ) ^ e2 - (s : ℚ) / 100000000| ≤ (s : ℚ) / 100000000 * (1 / 2 ^ 53 + 1 / 2 ^ 63) := by
  obtain ⟨hlo, hhi⟩ := btc_range s hs0 hs
  -- first rounding: the 64-bit quotient `x1 = m1 · 2^e1`
  obtain ⟨hm1, _, herr1⟩ := roundPos_spec 64 s 100000000 (by omega) hs0 (by omega)
  obtain ⟨_, he1⟩ := roundPos_exp 64 s 100000000 hs0 (by omega) (K := 25) (K' := -27)
    (by exact_mod_cast hlo) (by exact_mod_cast hhi)
  have hform : satsToBitcoins s =
      F64.ofScaled false (roundPos 64 s 100000000).1 (roundPos 64 s 100000000).2 := by
    unfold satsToBitcoins
    rw [if_neg (by omega)]
    rfl
  rw [Nat.cast_ofNat, val] at herr1
  generalize (roundPos 64 s 100000000).1 = m1 at *
  generalize (roundPos 64 s 100000000).2 = e1 at *
  have hm1pos : 0 < m1 := lt_of_lt_of_le (Nat.two_pow_pos _) hm1
  -- second rounding: `Float64()`
  obtain ⟨hlo1, hhi1⟩ := btc_range_rounded hlo hhi herr1
  rw [← div_pow_eq m1 e1 (by omega)] at hlo1 hhi1
  obtain ⟨m2, e2, hfin, hm2, _, _, he2, herr2⟩ :=
    ofRat_of_range m1 (2 ^ (-e1).toNat) hm1pos (Nat.two_pow_pos _) hlo1 hhi1 (by omega) (by omega)
  rw [div_pow_eq m1 e1 (by omega)] at herr2
  exact ⟨m2, e2, hform.trans ((ofScaled_of_nonpos false m1 (by omega)).trans hfin),
    lt_of_lt_of_le (Nat.two_pow_pos _) hm2, by omega, two_roundings (by positivity) herr1 herr2⟩

/-- the error is `2^-53`; it is stated with the weaker `2^-53 + 2^-63` of `satsToBitcoins_form` so that
    `bitcoinsToSats_of_near` applies to both -/
theorem decimal_form (k : ℕ) (hk0 : 0 < k) (hk : k ≤ 2100000000000000) :
    ∃ (m : ℕ) (e : ℤ), F64.ofRat false k 100000000 = .fin false m e ∧ 0 < m ∧ e ≤ -26 ∧
      |(m : ℚ) * (2 : ℚ) ^ e - (k : ℚ) / 100000000| ≤ (k : ℚ) / 100000000 * (1 / 2 ^ 53 + 1 / 2 ^ 63) := by
  obtain ⟨hlo, hhi⟩ := btc_range k hk0 hk
  obtain ⟨m, e, hfin, hm, _, _, he, herr⟩ :=
    ofRat_of_range k 100000000 hk0 (by omega) (K := 25) (K' := -27)
      (by exact_mod_cast hlo) (by exact_mod_cast hhi) (by omega) (by omega)
  rw [Nat.cast_ofNat] at herr
  refine ⟨m, e, hfin, lt_of_lt_of_le (Nat.two_pow_pos _) hm, by omega, herr.trans ?_⟩
  rw [div_eq_mul_one_div]
  exact mul_le_mul_of_nonneg_left (le_add_of_nonneg_right (by positivity)) (by positivity)

theorem mul_zero_left (s t : Bool) (e f : ℤ) (n : ℕ) :
    F64.mul (.fin s 0 e) (.fin t n f) = F64.zero (s != t) := by
  simp [F64.mul, F64.ofScaled, F64.ofRat]

theorem round_zero (neg : Bool) (e : ℤ) (he : e < 0) : F64.round (.fin neg 0 e) = F64.zero neg := by
  have h : (0 + 2 ^ ((-e).toNat - 1)) / 2 ^ (-e).toNat = 0 :=
    Nat.div_eq_of_lt (by rw [Nat.zero_add]; exact Nat.pow_lt_pow_right (by omega) (by omega))
  unfold F64.round
  simp only
  rw [if_neg (by omega), h]
  rfl

theorem toUInt64_zero (neg : Bool) (e : ℤ) : F64.toUInt64 (.fin neg 0 e) = some 0 := by
  simp [F64.toUInt64]

theorem sats_roundtrip_zero : bitcoinsToSats (satsToBitcoins 0) = some 0 := by
  unfold bitcoinsToSats satsToBitcoins
  rw [if_pos rfl, show satoshisPerBitcoin = 100000000 from rfl, ofNat_1e8]
  unfold F64.zero
  rw [mul_zero_left]
  unfold F64.zero
  rw [round_zero _ _ (by omega)]
  exact toUInt64_zero _ _

theorem sats_roundtrip (s : ℕ) (hs : s ≤ 2100000000000000) : bitcoinsToSats (satsToBitcoins s) = some s := by
  rcases Nat.eq_zero_or_pos s with rfl | hs0
  · exact sats_roundtrip_zero
  · obtain ⟨m2, e2, hform, hm2, he2, hx⟩ := satsToBitcoins_form s hs0 hs
    rw [hform]
    exact bitcoinsToSats_of_near m2 e2 s hs0 hs hm2 (by omega) hx

end BtcVerif.Proofs.F64Sats
