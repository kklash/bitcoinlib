/- C16: the consumer is never blocked for ever — progress (deadlock freedom). -/
import BtcVerif.Proofs.StreamSafety
namespace BtcVerif.Model.Stream
open BtcVerif.Gen.Guards

/-- some component other than the environment can move (the lists are those of `steps`, without `envSteps`) -/
def Moves (P : Params) (s : State) : Prop :=
  ∃ x ∈ forWorkers s.workers (wsteps P s) ++ closerSteps s ++ rsteps P s ++ csteps P s, x.1 ≠ some .cancel

theorem Moves.step {P s} (hnp : s.panicked = false) (h : Moves P s) : ∃ l s', Step P s l s' ∧ l ≠ some .cancel := by
  obtain ⟨⟨l, s'⟩, hx, hl⟩ := h
  refine ⟨l, s', ?_, hl⟩
  simp only [Step, steps, hnp]
  exact List.mem_append_left _ hx

theorem Moves.of_consumer {P s} (h : ∃ x ∈ csteps P s, x.1 ≠ some .cancel) : Moves P s :=
  h.imp fun _ hx => ⟨List.mem_append_right _ hx.1, hx.2⟩

theorem Moves.of_reorderer {P s} (h : ∃ x ∈ rsteps P s, x.1 ≠ some .cancel) : Moves P s :=
  h.imp fun _ hx => ⟨List.mem_append_left _ (List.mem_append_right _ hx.1), hx.2⟩

theorem Moves.of_closer {P s} (hs : s.started = true) (hc : s.closed = false) (hd : allDone s.workers = true) :
    Moves P s :=
  ⟨(none, { s with closed := true }),
    List.mem_append_left _ (List.mem_append_left _ (List.mem_append_right _ (mem_alt.mpr ⟨by simp [hs, hc, hd], rfl⟩))),
    nofun⟩

theorem Moves.of_stream_closed {P s} (hc : s.cph = .call) (hcl : s.streamClosed P = true) : Moves P s :=
  .of_consumer ⟨(none, { s with cph := .gotEnd }), by simp only [csteps, hc]; exact mem_alt.mpr ⟨hcl, rfl⟩, nofun⟩

/-- a worker that is neither idle nor done can move as soon as the receiver of its queues is ready -/
theorem exists_worker_step {P : Params} {s : State} {i : Nat} {w : Worker}
    (hd : w.ph ≠ .done) (hi : w.ph ≠ .idle)
    (hu : P.mode = .unordered → s.cph = .call) (ho : P.mode ≠ .unordered → s.rph = .loop) :
    ∃ x ∈ wsteps P s i w, x.1 ≠ some .cancel := by
  unfold wsteps
  cases hph : w.ph with
  | idle => exact absurd hph hi
  | done => exact absurd hph hd
  | next => exact ⟨_, List.mem_cons_self, by simp⟩
  | hashWait => exact ⟨_, List.mem_cons_self, by simp⟩
  | blockReq => exact ⟨_, List.mem_cons_self, by simp⟩
  | blockWait => exact ⟨_, List.mem_cons_self, by simp⟩
  | offer g =>
    by_cases hm : P.mode = .unordered
    · simp [alt, hm, hu hm]
    · simp [alt, hm, ho hm]
  | offerErr =>
    by_cases hm : P.mode = .unordered
    · simp [alt, hm, hu hm]
    · simp [alt, hm, ho hm]

theorem not_allDone_exists {ws : List Worker} (h : allDone ws ≠ true) :
    ∃ (i : Nat) (w : Worker), ws[i]? = some w ∧ w.ph ≠ .done := by
  by_cases hex : ∃ (i : Nat) (w : Worker), ws[i]? = some w ∧ w.ph ≠ .done
  · exact hex
  · exfalso; apply h; rw [allDone_iff]
    intro i w hw
    by_cases hd : w.ph = .done
    · exact hd
    · exact absurd ⟨i, w, hw, hd⟩ hex

theorem Moves.of_worker {P s} {i : Nat} {w : Worker} (hw : s.workers[i]? = some w) (hd : w.ph ≠ .done) (hi : w.ph ≠ .idle)
    (hu : P.mode = .unordered → s.cph = .call) (ho : P.mode ≠ .unordered → s.rph = .loop) : Moves P s := by
  obtain ⟨x, hx, hl⟩ := exists_worker_step (i := i) hd hi hu ho
  exact ⟨x, List.mem_append_left _ (List.mem_append_left _ (List.mem_append_left _
    ((mem_forWorkers _ _ _).mpr ⟨i, w, hw, hx⟩))), hl⟩

/-- The consumer itself moves unless it waits in `next()`; then the stream is closed, or the re-orderer can move,
or (it waits in its `select`, or there is none) the closer or a worker can. -/
theorem Inv.progress {P : Params} {s} (h1 : Inv P s) (hc : s.cph ≠ .finished) :
    ∃ l s', Step P s l s' ∧ l ≠ some .cancel := by
  refine Moves.step h1.np ?_
  -- while the workers run: the closer, whoever reads the worker queues seeing them closed (the consumer, or the
  -- re-orderer in its `select`), or a worker that is not done
  have workers : s.started = true → (P.mode = .unordered → s.cph = .call) → (P.mode ≠ .unordered → s.rph = .loop) →
      (s.closed = true → Moves P s) → Moves P s := fun hs hu ho hcl => by
    by_cases hall : allDone s.workers = true
    · cases hc' : s.closed
      · exact .of_closer hs hc' hall
      · exact hcl hc'
    · obtain ⟨i, w, hw, hd⟩ := not_allDone_exists hall
      exact .of_worker hw hd (fun hi => by rw [(h1.idle i w hw).mp hi] at hs; cases hs) hu ho
  cases hcp : s.cph with
  | finished => exact absurd hcp hc
  | idle => exact .of_consumer (by simp only [csteps, hcp]; split <;> (try split) <;> simp)
  | got h => exact .of_consumer (by simp [csteps, hcp])
  | gotErr => exact .of_consumer (by simp only [csteps, hcp]; split <;> simp)
  | gotEnd => exact .of_consumer (by simp only [csteps, hcp, blockscan_BlockScanner_UpdateUtxos_1]; split <;> simp)
  | call =>
    have hrp' := h1.rp
    by_cases hm : P.mode = .unordered
    · rw [h1.absent hm] at hrp'
      exact workers hrp'.2.1 (fun _ => hcp) (absurd hm) fun hcl =>
        .of_stream_closed hcp (by simp [State.streamClosed, hm, hcl])
    · cases hrp : s.rph <;> rw [hrp] at hrp'
      case absent => exact absurd hrp'.1 hm
      case fin => exact .of_stream_closed hcp (by simp [State.streamClosed, hm, hrp'.2])
      case loop =>
        by_cases hcan : (s.cancel0 || s.cancel1) = true
        · exact .of_reorderer ⟨_, by simp only [rsteps, hrp]; exact List.mem_append_left _ (mem_alt.mpr ⟨hcan, rfl⟩), by simp⟩
        · exact workers hrp'.2.1 (absurd · hm) (fun _ => hrp) fun hcl =>
            .of_reorderer ⟨_, by simp only [rsteps, hrp]; exact List.mem_append_right _ (mem_alt.mpr ⟨hcl, rfl⟩), by simp⟩
      case rel => exact .of_reorderer (by simp only [rsteps, hrp]; split <;> (try split) <;> simp)
      all_goals exact .of_reorderer (by simp [rsteps, hrp, alt, hcp])

theorem Inv.finished_of_terminal {P s} (h : Inv P s) (hterm : ∀ l s', Step P s l s' → l = some .cancel) :
    s.cph = .finished := by
  by_cases hf : s.cph = .finished
  · exact hf
  · obtain ⟨l, s', hst, hl⟩ := h.progress hf
    exact absurd (hterm l s' hst) hl

end BtcVerif.Model.Stream
