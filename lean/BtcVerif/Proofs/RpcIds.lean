import BtcVerif.Model.RpcIds

/-! The id log of `Model/RpcIds.lean` in closed form: request `i` of a run gets the id `start + i`. -/
namespace BtcVerif.Model.RpcIds

theorem foldl_take (tags : List Nat) : ∀ (s : St),
    (tags.foldl take s).counter = s.counter + tags.length ∧
    (tags.foldl take s).log = s.log ++ tags.zip (List.range' s.counter tags.length) := by
  induction tags with
  | nil => intro s; simp
  | cons t ts ih =>
    intro s
    obtain ⟨hc, hl⟩ := ih (take s t)
    rw [List.foldl_cons, hc, hl]
    simp [take, List.range'_succ, Nat.add_assoc, Nat.add_comm 1]

theorem run_log (start : Nat) (tags : List Nat) :
    (run start tags).log = tags.zip (List.range' start tags.length) :=
  (foldl_take tags _).2.trans (List.nil_append _)

end BtcVerif.Model.RpcIds
