/- C16: membership lemmas of the step function, and soundness of the executable trace validator. -/
import BtcVerif.Model.Stream

namespace BtcVerif.Model.Stream

theorem mem_alt {α} {c : Bool} {x y : α} : y ∈ alt c x ↔ c = true ∧ y = x := by
  unfold alt; split <;> simp_all

theorem mem_forWorkersFrom {α} (f : Nat → Worker → List α) (x : α) :
    ∀ (ws : List Worker) (k : Nat), x ∈ forWorkersFrom f k ws ↔ ∃ i w, ws[i]? = some w ∧ x ∈ f (k + i) w := by
  intro ws
  induction ws with
  | nil => intro k; simp [forWorkersFrom]
  | cons w ws ih =>
    intro k
    simp only [forWorkersFrom, List.mem_append, ih]
    constructor
    · rintro (h | ⟨i, w', hw, hx⟩)
      · exact ⟨0, w, by simp, by simpa using h⟩
      · exact ⟨i + 1, w', by simpa using hw, by rw [← Nat.add_assoc, Nat.add_right_comm]; exact hx ⟩
    · rintro ⟨i, w', hw, hx⟩
      cases i with
      | zero => left; simp at hw; subst hw; simpa using hx
      | succ i => right; exact ⟨i, w', by simpa using hw, by rw [Nat.add_assoc, Nat.add_comm 1 i]; exact hx⟩

theorem mem_forWorkers {α} (f : Nat → Worker → List α) (x : α) (ws : List Worker) :
    x ∈ forWorkers ws f ↔ ∃ i w, ws[i]? = some w ∧ x ∈ f i w := by
  simp [forWorkers, mem_forWorkersFrom]

/-- `tauSucc` (`l = none`) and `visSucc` (`l = some e`) select the steps with label `l` -/
theorem mem_succ {P s t} (l : Label) :
    t ∈ (steps P s).filterMap (fun x => if x.1 = l then some x.2 else none) ↔ Step P s l t := by
  simp only [Step, List.mem_filterMap, Option.ite_none_right_eq_some, Option.some.injEq]
  constructor
  · rintro ⟨⟨l', u⟩, hm, rfl, rfl⟩; exact hm
  · intro h; exact ⟨(l, t), h, rfl, rfl⟩

theorem TauStar.trans {P s t u} (h1 : TauStar P s t) (h2 : TauStar P t u) : TauStar P s u := by
  induction h2 with
  | refl => exact h1
  | tail _ hs ih => exact TauStar.tail ih hs

theorem Trace.tau_prepend {P s t es v} (h1 : TauStar P s t) (h2 : Trace P t es v) : Trace P s es v := by
  cases h2 with
  | nil h => exact Trace.nil (h1.trans h)
  | cons ht hs hr => exact Trace.cons (h1.trans ht) hs hr

theorem mem_addNew {xs seen acc : List State} {x} (h : x ∈ addNew xs seen acc) : x ∈ xs ∨ x ∈ acc := by
  induction xs generalizing acc with
  | nil => right; simpa [addNew] using h
  | cons y ys ih =>
    unfold addNew at h
    split at h
    · rcases ih h with h | h
      · left; exact List.mem_cons_of_mem _ h
      · right; exact h
    · rcases ih h with h | h
      · left; exact List.mem_cons_of_mem _ h
      · rcases List.mem_cons.mp h with h | h
        · left; subst h; exact List.mem_cons_self
        · right; exact h

theorem closureAux_sound (P : Params) (R : State → Prop) (hR : ∀ s t, R s → Step P s none t → R t) :
    ∀ (k : Nat) (frontier seen : List State), (∀ x ∈ frontier, R x) → (∀ x ∈ seen, R x) →
      ∀ x ∈ closureAux P k frontier seen, R x := by
  intro k
  induction k with
  | zero => intro f s _ hs x hx; exact hs x (by simpa [closureAux] using hx)
  | succ k ih =>
    intro f s hf hs x hx
    unfold closureAux at hx
    simp only at hx
    have hnew : ∀ y ∈ addNew (f.flatMap (tauSucc P)) s [], R y := by
      intro y hy
      rcases mem_addNew hy with h | h
      · rcases List.mem_flatMap.mp h with ⟨z, hz, hyz⟩
        exact hR z y (hf z hz) ((mem_succ none).mp hyz)
      · simp at h
    split at hx
    · exact hs x hx
    · refine ih _ _ hnew ?_ x hx
      intro y hy
      rcases List.mem_append.mp hy with h | h
      · exact hnew y h
      · exact hs y h

theorem closure_sound (P : Params) (S : List State) : ∀ x ∈ closure P S, ∃ s ∈ S, TauStar P s x := by
  intro x hx
  unfold closure at hx
  have h0 : ∀ y ∈ addNew S [] [], ∃ s ∈ S, TauStar P s y := by
    intro y hy
    rcases mem_addNew hy with h | h
    · exact ⟨y, h, TauStar.refl y⟩
    · simp at h
  exact closureAux_sound P (fun x => ∃ s ∈ S, TauStar P s x)
    (fun s t ⟨r, hr, hrs⟩ hst => ⟨r, hr, TauStar.tail hrs hst⟩) _ _ _ h0 h0 x hx

theorem runTrace_sound (P : Params) : ∀ (es : List Event) (S : List State) (i : Nat) (S' : List State),
    runTrace P S i es = .ok S' → ∀ x ∈ S', ∃ s ∈ S, Trace P s es x := by
  intro es
  induction es with
  | nil =>
    intro S i S' h x hx
    simp only [runTrace, Except.ok.injEq] at h
    subst h
    exact ⟨x, hx, Trace.nil (TauStar.refl x)⟩
  | cons e es ih =>
    intro S i S' h x hx
    unfold runTrace at h
    simp only at h
    split at h
    · cases h
    · rcases ih _ _ _ h x hx with ⟨u', hu', htr⟩
      rcases closure_sound P _ u' hu' with ⟨u, hu, htau⟩
      rcases List.mem_flatMap.mp hu with ⟨s, hs, hsu⟩
      exact ⟨s, hs, Trace.cons (TauStar.refl s) ((mem_succ (some e)).mp hsu) (Trace.tau_prepend htau htr)⟩

theorem validTrace_sound (P : Params) (es : List Event) (h : validTrace P es = true) :
    ∃ t, Trace P (init P) es t := by
  unfold validTrace at h
  split at h
  · rename_i S hS
    cases S with
    | nil => simp at h
    | cons x xs =>
      rcases runTrace_sound P es _ _ _ hS x List.mem_cons_self with ⟨s, hs, htr⟩
      rcases closure_sound P _ s hs with ⟨s0, hs0, htau⟩
      simp only [List.mem_singleton] at hs0
      subst hs0
      exact ⟨x, Trace.tau_prepend htau htr⟩
  · simp at h

end BtcVerif.Model.Stream
