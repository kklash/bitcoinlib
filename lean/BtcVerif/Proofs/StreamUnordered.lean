/- C16: unordered streaming.  Every height of the range is handed over by exactly one worker (the one of its residue
class), at most once; a clean end of the stream means all of them were. -/
import BtcVerif.Proofs.StreamSafety
namespace BtcVerif.Model.Stream
open BtcVerif.Gen.Guards

structure UnordInv (P : Params) (s : State) : Prop where
  nd : (handed s).Nodup
  ch : ∀ h, h ∈ handed s ↔ (P.lo ≤ h ∧ h ≤ P.hi ∧ past P s.workers h)
  wd : ∀ (i : Nat) (w : Worker), s.workers[i]? = some w → w.ph = .done →
    P.hi < w.pos ∨ s.cancel0 = true ∨ 0 < errHanded s

theorem unordInv_init {P : Params} (hm : P.mode = .unordered) : UnordInv P (init P) where
  nd := by simp [init, handed]
  ch := fun h => by
    simp only [init, handed, List.append_nil, List.not_mem_nil, false_iff, not_and]
    exact fun h1 _ => not_past_init P _ (base_unordered hm ▸ h1)
  wd := fun i w hw hd => by
    obtain ⟨_, rfl⟩ := initWorkers_get hw
    simp only [init, initWorker, hm, decide_true, if_true] at hd ⊢
    split at hd
    · cases hd
    · exact .inl (by omega)

theorem unordInv_step {P : Params} (hm : P.mode = .unordered) {s l s'}
    (h1 : Inv P s) (h : UnordInv P s) (hI : StepI P s l s') : UnordInv P s' := by
  have hab := h1.absent hm
  have hb := base_unordered hm
  -- the transitions of the re-orderer, and `UpdateUtxos` returning, do not exist in this mode
  cases hI with
  | wGiveR _ _ _ _ _ hm' | wErrR _ _ _ _ hm' => exact absurd hm hm'
  | rFirst _ _ _ hr hf => rw [hab] at hr; subst hr; cases hf
  | rSingle _ hr | rStart _ hr | rS0Loop hr | rS0Exit hr | rLoopCancel hr | rLoopClosed hr | rRelSend hr | rRelErr hr
  | rRelLoop hr | rRelExit hr | rSnd _ hr | rSendErr hr => rw [hab] at hr; cases hr
  | cRetOk _ hm' | cRetErr _ hm' => rw [hm] at hm'; cases hm'
  | closer => exact ⟨h.nd, h.ch, h.wd⟩
  | envCancel => exact ⟨h.nd, h.ch, fun i w hw hd => (h.wd i w hw hd).elim .inl fun _ => .inr (.inl rfl)⟩
  | wLocal i w ph' l hw hl =>
    refine ⟨h.nd, fun x => (h.ch x).trans ?_, forall_set (C := fun _ w => w.ph = .done → _) h.wd fun hd => ?_⟩
    · rw [setW, past_set_samepos (w' := { w with ph := ph' }) hw rfl]
    · cases hl with
      | ctxDone g hp hc =>
        -- in this mode the only context the workers see is the caller's
        have h1' : s.cancel1 = false := by
          cases hc1 : s.cancel1
          · rfl
          · exact absurd (h1.of_cancel1 hc1).1 (by simp [hm])
        have h2' : s.cancel2 = false := by rw [h1.c2, (h1.rp_at hab).2.2.1]
        exact .inr (.inl (by simpa [State.workerCtxDone, h1', h2', setW] using hc))
      | _ => cases hd
  | wGiveC i w g hw hp _ hc =>
    have hwok := h1.wok i w hw
    have hle : w.pos ≤ P.hi := hwok.2.2 (by simp [hp]) (by simp [hp])
    have hlo : P.lo ≤ w.pos := by have := hwok.1; omega
    have hold : handed s = s.delivered := by simp [handed, hc]
    have hnew : handed { setW s i (advance P w) with cph := .got w.pos } = handed s ++ [w.pos] := by rw [hold]; rfl
    have hnot : w.pos ∉ handed s := fun hin => by
      obtain ⟨_, _, v, hv, hlt⟩ := (h.ch w.pos).mp hin
      rw [wok_residue hwok (h1.idx_lt hw), hw] at hv
      cases hv; exact Nat.lt_irrefl _ hlt
    refine ⟨?_, fun x => ?_, forall_set (C := fun _ w => w.ph = .done → _) (fun i w a b => ?_) fun hd => .inl ?_⟩
    · rw [hnew]; exact List.nodup_append.mpr ⟨h.nd, by simp, fun a ha b hb => by
        rw [List.mem_singleton.mp hb]; exact fun e => hnot (e ▸ ha)⟩
    · rw [hnew, List.mem_append, List.mem_singleton, h.ch x]
      by_cases hx : P.lo ≤ x
      · rw [setW, past_set_advance hw hwok (h1.idx_lt hw) (hb ▸ hx)]
        constructor
        · rintro (⟨a, b, c⟩ | rfl)
          · exact ⟨a, b, .inl c⟩
          · exact ⟨hlo, hle, .inr rfl⟩
        · rintro ⟨a, b, c | rfl⟩
          · exact .inl ⟨a, b, c⟩
          · exact .inr rfl
      · exact ⟨fun hx' => hx'.elim (fun hx' => absurd hx'.1 hx) (fun e => absurd (e ▸ hlo) hx), fun hx' => absurd hx'.1 hx⟩
    · simpa [errHanded, hc, setW] using h.wd i w a b
    · simp only [advance] at hd ⊢
      split at hd
      · cases hd
      · omega
  | wErrC i w hw hp _ hc =>
    refine ⟨by simpa [handed, hc, setW] using h.nd, fun x => ?_,
      forall_set (C := fun _ w => w.ph = .done → _) (fun _ _ _ _ => ?_) fun _ => ?_⟩
    · have := h.ch x
      simp only [handed, hc, setW] at this ⊢
      rw [this, past_set_samepos (w' := { w with ph := .done }) hw rfl]
    all_goals exact .inr (.inr (by simp [errHanded]))
  | cErr hc =>
    exact ⟨by simpa [handed, hc] using h.nd, by simpa [handed, hc] using h.ch,
      fun _ _ _ _ => .inr (.inr (by simp [errHanded]))⟩
  | cCall hc | cSeeEnd hc | cDeliver _ hc | cEnd hc =>
    exact ⟨by simpa [handed, hc] using h.nd, by simpa [handed, hc] using h.ch, by simpa [errHanded, hc] using h.wd⟩

theorem reachable_unordInv {P : Params} (hP : P.lo ≤ P.hi) (hm : P.mode = .unordered) {s} (hr : Reachable P s) :
    UnordInv P s := by
  induction hr with
  | init => exact unordInv_init hm
  | step hr' hst ih => exact unordInv_step hm (reachable_inv hP hr') ih (step_inv hP hst)

theorem UnordInv.exactly_once {P s} (h : UnordInv P s) :
    s.delivered.Nodup ∧ ∀ x ∈ s.delivered, P.lo ≤ x ∧ x ≤ P.hi := by
  refine ⟨(List.nodup_append.mp h.nd).1, fun x hx => ?_⟩
  have := (h.ch x).mp (List.mem_append_left _ hx)
  exact ⟨this.1, this.2.1⟩

/-- once the consumer has finished on closed worker queues, without a cancel and without an error: every worker is
done, hence past the range, hence every height of the range was handed over -/
theorem UnordInv.complete {P s} (h1 : Inv P s) (h : UnordInv P s) (hp : 0 < P.p)
    (hf : s.cph = .finished) (hcl : s.closed = true) (hc : s.cancel0 = false) (herr : s.errs = 0) :
    s.delivered.Perm (fullRange P) := by
  have hd : handed s = s.delivered := by simp [handed, hf]
  rw [fullRange, List.perm_ext_iff_of_nodup h.exactly_once.1 List.nodup_range']
  intro x
  rw [← hd, h.ch x, List.mem_range'_1]
  constructor
  · rintro ⟨a, b, _⟩; omega
  · intro hx
    refine ⟨hx.1, by omega, ?_⟩
    have hlt : (x - P.base) % P.p < s.workers.length := by rw [h1.len]; exact Nat.mod_lt _ hp
    have hw := List.getElem?_eq_getElem hlt
    refine ⟨_, hw, ?_⟩
    rcases h.wd _ _ hw ((allDone_iff _).mp (h1.cd hcl) _ _ hw) with h' | h' | h'
    · omega
    · rw [hc] at h'; cases h'
    · simp [errHanded, hf, herr] at h'

end BtcVerif.Model.Stream
