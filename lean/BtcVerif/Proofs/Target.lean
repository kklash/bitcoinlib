/-
  `calculateTargetNBits` and Core's `SetCompact`, each as one `if` chain over the same tests on the bits of `nBits`.
-/
import BtcVerif.Model.Block
import BtcVerif.Spec.Consensus

namespace BtcVerif.Model
open BtcVerif
open BtcVerif.Gen.Guards

/-- with the sign bit clear, the library's 24-bit significand is Core's 23-bit word -/
theorem and_mask_eq (n : Nat) (h : n &&& 0x800000 = 0) : n &&& 0xffffff = n &&& 0x7fffff := by
  rw [show (0xffffff : Nat) = 0x7fffff ||| 0x800000 by decide, Nat.and_or_distrib_left, h, Nat.or_zero]

theorem sig_sign (n : Nat) : (n &&& 0xffffff) &&& 0x800000 = n &&& 0x800000 := by
  rw [Nat.and_assoc]; rfl

theorem targetModel_eq (n : Nat) : targetModel n =
    if n &&& 0x800000 ≠ 0 then .ok 0
    else if n >>> 24 < 3 then .ok ((n &&& 0xffffff) >>> (8 * (3 - n >>> 24)))
    else if 32 < n >>> 24 then .panic
    else .ok ((n &&& 0xffffff) * 256 ^ (n >>> 24 - 3)) := by
  simp only [targetModel, blocks_blockheader_calculateTargetNBits_0, blocks_blockheader_calculateTargetNBits_1,
    blocks_blockheader_calculateTargetNBits_2, sig_sign, decide_eq_true_eq, gt_iff_lt, Nat.mul_one]

/-- `SetCompact` in the same shape: the case `size = 3` shifts by nothing either way, and `<<< (8 * k)` is `* 256 ^ k` -/
theorem setCompact_eq (n : Nat) : Spec.setCompact n =
    if n &&& 0x800000 ≠ 0 then 0
    else if n >>> 24 < 3 then (n &&& 0x7fffff) >>> (8 * (3 - n >>> 24))
    else (n &&& 0x7fffff) * 256 ^ (n >>> 24 - 3) := by
  simp only [Spec.setCompact]
  split
  · rfl
  · by_cases h3 : n >>> 24 < 3
    · rw [if_pos h3, if_pos (by omega)]
    · rw [if_neg h3, Nat.shiftLeft_eq, Nat.pow_mul]
      by_cases h4 : n >>> 24 ≤ 3
      · rw [if_pos h4, show n >>> 24 = 3 by omega]; simp
      · rw [if_neg h4]

end BtcVerif.Model
