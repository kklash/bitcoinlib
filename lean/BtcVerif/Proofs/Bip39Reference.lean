/-
  C14 — the model of `EncodeToWords` computes the bit-level reference encoding of the standard
  (`Spec.Bip39.encode`: ENT ‖ first ENT/32 bits of SHA256(ENT), split into groups of 11 bits).
-/
import BtcVerif.Proofs.Bip39
import BtcVerif.Proofs.Digits

namespace BtcVerif.Proofs.Bip39
open BtcVerif BtcVerif.Model.Bip39 BtcVerif.Gen.Guards BtcVerif.Proofs.Digits
open BtcVerif.Spec.Bip39 (bitsOfByte bitsOf natOfBits groups11)

theorem natOfBits_ofDigits (bits : List Bool) : natOfBits bits = ofDigits 2 (bits.map Bool.toNat) := by
  simp only [natOfBits, ofDigits, List.foldl_map, Nat.mul_comm]

theorem toNat_lt_two (bits : List Bool) : ∀ d ∈ bits.map Bool.toNat, d < 2 :=
  List.forall_mem_map.mpr fun b _ => Nat.lt_succ_of_le (Bool.toNat_le b)

theorem natOfBits_append (a b : List Bool) :
    natOfBits (a ++ b) = natOfBits a * 2 ^ b.length + natOfBits b := by
  simp only [natOfBits_ofDigits, List.map_append, ofDigits_append, List.length_map]

theorem natOfBits_cons (b : Bool) (t : List Bool) :
    natOfBits (b :: t) = b.toNat * 2 ^ t.length + natOfBits t := by
  simp only [natOfBits_ofDigits, List.map_cons, ofDigits_cons, List.length_map]

theorem natOfBits_lt (bits : List Bool) : natOfBits bits < 2 ^ bits.length := by
  simpa only [natOfBits_ofDigits, List.length_map] using ofDigits_lt 2 _ (toNat_lt_two bits)

theorem natOfBits_take (bits : List Bool) (k : Nat) :
    natOfBits (bits.take k) = natOfBits bits / 2 ^ (bits.length - k) := by
  simpa only [natOfBits_ofDigits, List.map_take, List.length_map] using
    ofDigits_take 2 _ k (toNat_lt_two bits)

theorem natOfBits_testBit (n w : Nat) :
    natOfBits ((List.range w).reverse.map n.testBit) = n % 2 ^ w := by
  rw [natOfBits_ofDigits, List.map_map]
  exact ofDigits_testBits n w

theorem bitsOfByte_length (b : UInt8) : (bitsOfByte b).length = 8 := rfl

theorem natOfBits_bitsOfByte (b : UInt8) : natOfBits (bitsOfByte b) = b.toNat := by
  have h := natOfBits_testBit b.toNat 8
  rwa [Nat.mod_eq_of_lt b.toNat_lt] at h

theorem bitsOf_length (bs : Bytes) : (bitsOf bs).length = 8 * bs.length := by
  induction bs with
  | nil => rfl
  | cons b t ih =>
    rw [bitsOf, List.flatMap_cons, List.length_append, bitsOfByte_length, ← bitsOf, ih,
      List.length_cons, Nat.mul_succ, Nat.add_comm]

theorem natOfBits_bitsOf (bs : Bytes) : natOfBits (bitsOf bs) = bytesToNat bs := by
  have h : ∀ l : Bytes, natOfBits (bitsOf l.reverse) = bytesToNat l.reverse := by
    intro l
    induction l with
    | nil => rfl
    | cons x l ih =>
      have : bitsOf (l.reverse ++ [x]) = bitsOf l.reverse ++ bitsOfByte x := by
        simp [bitsOf, List.flatMap_append]
      rw [List.reverse_cons, this, natOfBits_append, bytesToNat_snoc, ih, bitsOfByte_length,
        natOfBits_bitsOfByte]
  simpa using h bs.reverse

theorem groups_length (n : Nat) (bits : List Bool) : (groups11 n bits).length = n := by
  induction n generalizing bits with
  | zero => rfl
  | succ k ih => simp [groups11, ih]

theorem ofDigits_groups (n : Nat) (bits : List Bool) (hlen : bits.length = 11 * n) :
    ofDigits 2048 ((groups11 n bits).map natOfBits) = natOfBits bits := by
  induction n generalizing bits with
  | zero =>
    have : bits = [] := List.eq_nil_of_length_eq_zero (by omega)
    subst this; rfl
  | succ k ih =>
    have hd : (bits.drop 11).length = 11 * k := by rw [List.length_drop]; omega
    rw [groups11, List.map_cons, ofDigits_cons, ih _ hd, List.length_map, groups_length,
      ← Nat.pow_mul 2 11 k, ← hd, ← natOfBits_append, List.take_append_drop]

theorem groups_lt (n : Nat) (bits : List Bool) :
    ∀ i ∈ (groups11 n bits).map natOfBits, i < 2048 := by
  induction n generalizing bits with
  | zero => intro i hi; simp [groups11] at hi
  | succ k ih =>
    intro i hi
    simp only [groups11, List.map_cons, List.mem_cons] at hi
    rcases hi with rfl | hi
    · have h1 := natOfBits_lt (bits.take 11)
      have h2 : (bits.take 11).length ≤ 11 := by rw [List.length_take]; omega
      have h3 : (2 : Nat) ^ (bits.take 11).length ≤ 2 ^ 11 := Nat.pow_le_pow_right (by decide) h2
      omega
    · exact ih _ i hi

theorem groups_eq_indices (n : Nat) (bits : List Bool) (hlen : bits.length = 11 * n) :
    (groups11 n bits).map natOfBits = indices n (natOfBits bits) := by
  have h := indices_ofDigits _ (groups_lt n bits)
  rw [List.length_map, groups_length, ofDigits_groups n bits hlen] at h
  exact h.symm

def csOf (sha256 : Bytes → Bytes) (e : Bytes) : UInt8 :=
  match sha256 e with
  | b :: _ => b
  | [] => 0

theorem sha256First_eq : sha256First = csOf Prim.sha256 := rfl

theorem spec_indices_eq (sha256 : Bytes → Bytes) (hsha : ∀ x, (sha256 x).length = 32) (e : Bytes)
    (hv : ValidLen e.length) :
    Spec.Bip39.indices sha256 e = indices (e.length * 3 / 4) (payloadOf (csOf sha256) e) := by
  obtain ⟨-, -, -, hs, h8⟩ := hv.sizes
  have h1 : e.length * 8 / 32 = e.length / 4 := Nat.mul_div_mul_right _ 4 (by decide)
  obtain ⟨h, t, hht⟩ : ∃ h t, sha256 e = h :: t := by
    cases hs : sha256 e with
    | nil => have := hsha e; rw [hs] at this; cases this
    | cons h t => exact ⟨h, t, rfl⟩
  have hcs : csOf sha256 e = h := by simp [csOf, hht]
  -- at most 8 checksum bits: they all come from the first byte of the hash
  have htake : (bitsOf (sha256 e)).take (e.length / 4) = (bitsOfByte h).take (e.length / 4) := by
    rw [hht, bitsOf, List.flatMap_cons,
      List.take_append_of_le_length (by rw [bitsOfByte_length]; exact h8)]
  have hlen : (bitsOf e ++ (bitsOfByte h).take (e.length / 4)).length = 11 * (e.length * 3 / 4) := by
    rw [List.length_append, bitsOf_length, List.length_take, bitsOfByte_length, Nat.min_eq_left h8, hs]
  simp only [Spec.Bip39.indices, h1, htake]
  rw [hlen, Nat.mul_div_cancel_left _ (by decide), groups_eq_indices _ _ hlen, natOfBits_append,
    natOfBits_bitsOf, natOfBits_take, natOfBits_bitsOfByte, bitsOfByte_length,
    ← Nat.shiftRight_eq_div_pow, List.length_take, bitsOfByte_length, Nat.min_eq_left h8,
    payloadOf, csBits, hcs]

theorem mapM_lookup (wl : List Bytes) (is : List Nat) (ws : List Bytes) :
    is.mapM (fun i => wl[i]?) = some ws ↔ lookupAll wl is = .ok ws := by
  rw [lookupAll_eq]
  cases is.mapM fun i => wl[i]? <;> simp [Option.elim]

/-- **the mnemonic equals the BIP39 reference encoding**: for every hash function with 32-byte
    output, `EncodeToWords` (with the first hash byte as checksum byte) yields exactly the words of
    the bit-level definition of the standard, and refuses exactly the sizes the standard excludes -/
theorem encode_eq_reference (wl : List Bytes) (sha256 : Bytes → Bytes)
    (hsha : ∀ x, (sha256 x).length = 32) (e : Bytes) (ws : List Bytes) :
    encode wl (csOf sha256) e = .ok ws ↔ Spec.Bip39.encode wl sha256 e = some ws := by
  have hb : Spec.Bip39.validEntropyLen e.length = decide (ValidLen e.length) := by
    rw [Bool.eq_iff_iff, decide_eq_true_iff]
    simp only [Spec.Bip39.validEntropyLen, Bool.or_eq_true, beq_iff_eq, ValidLen, or_assoc]
  rw [encode_eq, Spec.Bip39.encode, hb]
  by_cases hv : ValidLen e.length
  · rw [if_pos hv, decide_eq_true hv, if_pos rfl, spec_indices_eq sha256 hsha e hv, mapM_lookup]
  · simp [hv]

end BtcVerif.Proofs.Bip39
