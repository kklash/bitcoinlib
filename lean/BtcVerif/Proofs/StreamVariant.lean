/- C16: a variant.  Every step of every component strictly decreases one natural number, a weighted sum of the ranks
of the components' phases and of the heights still to be served.  A step of one component alone lowers that
component's rank.  In a rendezvous the receiver's rank rises (re-orderer `loop → rel` by 3, consumer `call → got`
by 2) and the sender pays: a worker that hands over moves on by `p ≥ 1` heights at 18 each, and `cur + 1` pays 6 for
the re-orderer's send (`snd → rel` and `call → got`).  While the workers are not started the variant holds 1 for
the step that starts them, and `closedSeen` holds 4 for the `loop → rel` on closed queues.
`Run` counts the steps of a run; C16 `runs_are_finite` bounds it by the variant. -/
import BtcVerif.Proofs.StreamOrdered
namespace BtcVerif.Model.Stream
open BtcVerif.Gen.Guards

def wrank : WPhase → Nat
  | .idle => 6 | .next => 5 | .hashWait => 4 | .blockReq => 3 | .blockWait => 2
  | .offer _ => 1 | .offerErr => 1 | .done => 0

def wmeasure (P : Params) (w : Worker) : Nat :=
  if w.ph = .done then 0 else 18 * (P.hi + 1 - w.pos) + 3 * wrank w.ph

def rrank : RPhase → Nat
  | .fin => 0 | .absent => 0 | .sendErr => 3 | .loop => 6 | .snd _ => 6 | .rel => 9 | .s0 => 12
  | .f2 => 15 | .f1b => 18 | .f1 => 21 | .f0 => 24

def crank : CPhase → Nat
  | .finished => 0 | .gotEnd => 1 | .call => 2 | .idle => 3 | .got _ => 4 | .gotErr => 4

def wsum (P : Params) (ws : List Worker) : Nat := (ws.map (wmeasure P)).sum

def variant (P : Params) (s : State) : Nat :=
  (if s.started then wsum P s.workers else wsum P (initWorkers P true) + 1)
  + (if s.closed then 0 else 1) + rrank s.rph + 6 * (P.hi + 1 - s.cur)
  + (if s.closedSeen then 0 else 4) + crank s.cph + (if s.cancel0 then 0 else 1)

theorem wsum_set {P : Params} {ws : List Worker} {i : Nat} {w w' : Worker} (hw : ws[i]? = some w) :
    wsum P (ws.set i w') + wmeasure P w = wsum P ws + wmeasure P w' := by
  induction ws generalizing i with
  | nil => simp at hw
  | cons x xs ih =>
    cases i with
    | zero =>
      simp only [List.getElem?_cons_zero, Option.some.injEq] at hw; subst hw
      simp only [wsum, List.set_cons_zero, List.map_cons, List.sum_cons]; omega
    | succ i =>
      simp only [List.getElem?_cons_succ] at hw
      have := ih hw
      simp only [wsum, List.set_cons_succ, List.map_cons, List.sum_cons] at this ⊢; omega

theorem wmeasure_init_le (P : Params) (i : Nat) :
    wmeasure P (initWorker P true i) ≤ wmeasure P (initWorker P false i) := by
  simp only [wmeasure, initWorker]
  by_cases h : P.base + i ≤ P.hi <;> simp [h, wrank]

theorem wmeasure_offering {P : Params} {w : Worker} (h : wrank w.ph = 1) :
    wmeasure P w = 18 * (P.hi + 1 - w.pos) + 3 := by
  have : w.ph ≠ .done := fun e => by rw [e] at h; cases h
  simp [wmeasure, this, h]

theorem wmeasure_advance {P : Params} {w : Worker} (hle : w.pos ≤ P.hi) (hp : 1 ≤ P.p) :
    wmeasure P (advance P w) + 6 ≤ 18 * (P.hi + 1 - w.pos) + 3 := by
  simp only [wmeasure, advance]
  by_cases h : w.pos + P.p ≤ P.hi <;> simp [h, wrank] <;> omega

theorem wmeasure_local {P : Params} {s w ph' l} (hl : WLocal s w ph' l) :
    wmeasure P { w with ph := ph' } < wmeasure P w := by
  cases hl <;> simp [wmeasure, wrank, *] <;> omega

theorem variant_rph {P : Params} {s : State} {r : RPhase} (h : rrank r < rrank s.rph) :
    variant P { s with rph := r } < variant P s := by
  simp only [variant]; omega

theorem variant_cph {P : Params} {s : State} {c : CPhase} (h : crank c < crank s.cph) :
    variant P { s with cph := c } < variant P s := by
  simp only [variant]; omega

theorem variant_step {P : Params} {s l s'} (h1 : Inv P s) (h2 : P.mode ≠ .unordered → OrdInv P s)
    (hI : StepI P s l s') : variant P s' < variant P s := by
  have wfacts : ∀ (i : Nat) (w : Worker), s.workers[i]? = some w → w.ph ≠ .idle →
      s.started = true ∧ 1 ≤ P.p ∧ (w.ph ≠ .done → w.pos ≤ P.hi) := fun i w hw hne =>
    ⟨h1.started_of hw hne, Nat.lt_of_le_of_lt (Nat.zero_le i) (h1.idx_lt hw), fun hd => (h1.wok i w hw).2.2 hd hne⟩
  have hrp := h1.rp
  cases hI with
  | wLocal i w ph' l hw hl =>
    have hs := h1.started_of hw hl.active.2
    have hsum := wsum_set (P := P) (w' := { w with ph := ph' }) hw
    have := wmeasure_local (P := P) hl
    simp only [variant, setW, hs, if_true]
    omega
  | wGiveC i w g hw hp hm hc =>
    obtain ⟨hs, hp1, hle⟩ := wfacts i w hw (by simp [hp])
    have hsum := wsum_set (P := P) (w' := advance P w) hw
    have hm1 := wmeasure_offering (P := P) (w := w) (by rw [hp]; rfl)
    have hm2 := wmeasure_advance (hle (by simp [hp])) hp1
    simp only [variant, setW, hs, if_true, hc, crank]
    omega
  | wErrC i w hw hp hm hc =>
    obtain ⟨hs, hp1, hle⟩ := wfacts i w hw (by simp [hp])
    have hsum := wsum_set (P := P) (w' := { w with ph := .done }) hw
    have hm1 := wmeasure_offering (P := P) (w := w) (by rw [hp]; rfl)
    have hm2 : wmeasure P { w with ph := .done } = 0 := by simp [wmeasure]
    simp only [variant, setW, hs, if_true, hc, crank]
    omega
  | wGiveR i w g hw hp hm hr' =>
    obtain ⟨hs, hp1, hle⟩ := wfacts i w hw (by simp [hp])
    have hsum := wsum_set (P := P) (w' := advance P w) hw
    have hm1 := wmeasure_offering (P := P) (w := w) (by rw [hp]; rfl)
    have hm2 := wmeasure_advance (hle (by simp [hp])) hp1
    simp only [variant, setW, hs, if_true, hr', rrank]
    omega
  | wErrR i w hw hp hm hr' =>
    obtain ⟨hs, hp1, hle⟩ := wfacts i w hw (by simp [hp])
    have hsum := wsum_set (P := P) (w' := { w with ph := .done }) hw
    have hm1 := wmeasure_offering (P := P) (w := w) (by rw [hp]; rfl)
    have hm2 : wmeasure P { w with ph := .done } = 0 := by simp [wmeasure]
    simp only [variant, setW, hs, if_true, hr', rrank]
    omega
  | closer hs hc hall => dsimp only [variant]; simp [hc] <;> omega
  | rFirst _ _ _ hr' hf => cases hf <;> exact variant_rph (by rw [hr']; decide)
  | rSingle _ hr' => exact variant_rph (r := .s0) (by rw [hr']; decide)
  | rStart _ hr' =>
    rw [hr'] at hrp
    dsimp only [variant]; simp [hr', rrank, hrp.2.1] <;> omega
  | rS0Loop hr' hc | rS0Exit hr' hc =>
    rw [hr'] at hrp
    have hcur : s.cur = P.lo := ((h2 hrp.1).rc_at hr').1
    dsimp only [variant, exitX]
    simp [hr', hc, rrank, crank, hcur] <;> omega
  | rLoopCancel hr' | rRelExit hr' => exact variant_rph (r := .fin) (by rw [hr']; decide)
  | rLoopClosed hr' hc =>
    rw [hr'] at hrp
    dsimp only [variant]; simp [hr', rrank, hrp.2.2.2] <;> omega
  | rRelSend hr' => exact variant_rph (r := .snd s.cur) (by rw [hr']; exact (by decide : 6 < 9))
  | rRelErr hr' => exact variant_rph (r := .sendErr) (by rw [hr']; decide)
  | rRelLoop hr' => exact variant_rph (r := .loop) (by rw [hr']; decide)
  | rSnd h hr' hc =>
    rw [hr'] at hrp
    have hsn : s.cur ≤ P.hi := ((h2 hrp.1).rc_at hr').2.2
    dsimp only [variant]; simp [hr', hc, rrank, crank] <;> omega
  | rSendErr hr' hc => dsimp only [variant, exitX]; simp [hr', hc, rrank, crank] <;> omega
  | cCall hc => exact variant_cph (c := .call) (by rw [hc]; decide)
  | cSeeEnd hc => exact variant_cph (c := .gotEnd) (by rw [hc]; decide)
  | cDeliver _ hc | cErr hc => exact variant_cph (c := .idle) (by rw [hc]; exact (by decide : 3 < 4))
  | cRetOk hc | cEnd hc => exact variant_cph (c := .finished) (by rw [hc]; decide)
  | cRetErr hc => exact variant_cph (c := .finished) (by rcases hc with hc | hc <;> rw [hc] <;> decide)
  | envCancel hc => dsimp only [variant]; simp [hc] <;> omega

inductive Run (P : Params) : State → Nat → State → Prop
  | nil (s) : Run P s 0 s
  | cons {s l t n u} : Step P s l t → Run P t n u → Run P s (n + 1) u

end BtcVerif.Model.Stream
