import BtcVerif.Proofs.Block

/-! Panic-freedom of the wire decoders (used by C01 and C17): no input makes any of them reach
    `Outcome.panic`. In these decoders `.panic` occurs only as the pass-through arm of a `match`; the
    allocations and index steps of the Go functions are not modelled as steps (allocation is C17's `Bounded`),
    so the theorems say that the decoders are composed of reads, limit checks and `fail` only. -/
namespace BtcVerif.Model
open BtcVerif BtcVerif.Parser
open BtcVerif.Gen.Guards

def NoPanic {α} (p : Parser α) : Prop := ∀ s, p s ≠ .panic

theorem NoPanic.pure {α} (a : α) : NoPanic (Pure.pure a : Parser α) := fun _ => nofun

theorem NoPanic.fail {α} : NoPanic (Parser.fail : Parser α) := fun _ => nofun

theorem NoPanic.bind {α β} {p : Parser α} {f : α → Parser β}
    (hp : NoPanic p) (hf : ∀ a, NoPanic (f a)) : NoPanic (p >>= f) := by
  intro s
  rw [bind_def]
  split
  · exact hf _ _
  · nofun
  · exact absurd ‹_› (hp s)

theorem NoPanic.ite {α} (c : Prop) [Decidable c] {p q : Parser α} (hp : NoPanic p) (hq : NoPanic q) :
    NoPanic (if c then p else q) := by
  split <;> assumption

theorem noPanic_readN (n : Nat) : NoPanic (readN n) := readN_ne_panic n
theorem noPanic_readLE (k : Nat) : NoPanic (readLE k) := readLE_ne_panic k
theorem noPanic_decVarint : NoPanic decVarint := decVarint_ne_panic

theorem noPanic_readMany {α} {p : Parser α} (hp : NoPanic p) (n : Nat) : NoPanic (readMany p n) := by
  induction n with
  | zero => exact NoPanic.pure _
  | succ k ih =>
    unfold readMany
    exact NoPanic.bind hp (fun _ => NoPanic.bind ih (fun _ => NoPanic.pure _))

theorem noPanic_decPrevOut : NoPanic decPrevOut :=
  NoPanic.bind (noPanic_readN _) fun _ => NoPanic.bind (noPanic_readLE _) fun _ => NoPanic.pure _

theorem noPanic_decTxIn : NoPanic decTxIn :=
  NoPanic.bind noPanic_decPrevOut fun _ => NoPanic.bind noPanic_decVarint fun _ =>
    NoPanic.ite _ NoPanic.fail
      (NoPanic.bind (noPanic_readN _) fun _ => NoPanic.bind (noPanic_readLE _) fun _ => NoPanic.pure _)

theorem noPanic_decTxOut : NoPanic decTxOut :=
  NoPanic.bind (noPanic_readLE _) fun _ => NoPanic.bind noPanic_decVarint fun _ =>
    NoPanic.ite _ NoPanic.fail (NoPanic.bind (noPanic_readN _) fun _ => NoPanic.pure _)

theorem noPanic_decChunks (k size : Nat) : NoPanic (decChunks k size) := by
  induction k generalizing size with
  | zero => exact NoPanic.pure _
  | succ k ih =>
    unfold decChunks
    exact NoPanic.bind noPanic_decVarint fun _ => NoPanic.ite _ NoPanic.fail
      (NoPanic.bind (noPanic_readN _) fun _ => NoPanic.bind (ih _) fun _ => NoPanic.pure _)

theorem noPanic_decWitness : NoPanic decWitness :=
  NoPanic.bind noPanic_decVarint fun _ => NoPanic.ite _ NoPanic.fail (noPanic_decChunks _ _)

theorem noPanic_sniff : NoPanic sniffSegwit := by
  intro s
  unfold sniffSegwit
  split
  · nofun
  · nofun
  · exact absurd ‹_› (readN_ne_panic 2 s)

theorem noPanic_decTx : NoPanic decTx :=
  NoPanic.bind (noPanic_readLE _) fun _ => NoPanic.bind noPanic_sniff fun _ =>
  NoPanic.bind noPanic_decVarint fun _ => NoPanic.ite _ NoPanic.fail <|
  NoPanic.bind (noPanic_readMany noPanic_decTxIn _) fun _ =>
  NoPanic.bind noPanic_decVarint fun _ => NoPanic.ite _ NoPanic.fail <|
  NoPanic.bind (noPanic_readMany noPanic_decTxOut _) fun _ =>
  NoPanic.bind (NoPanic.ite _
      (NoPanic.bind (noPanic_readMany noPanic_decWitness _) fun _ => NoPanic.pure _) (NoPanic.pure _)) fun _ =>
  NoPanic.bind (noPanic_readLE _) fun _ => NoPanic.pure _

theorem noPanic_decHeader : NoPanic decHeader :=
  NoPanic.bind (noPanic_readLE _) fun _ => NoPanic.bind (noPanic_readN _) fun _ =>
  NoPanic.bind (noPanic_readN _) fun _ => NoPanic.bind (noPanic_readLE _) fun _ =>
  NoPanic.bind (noPanic_readLE _) fun _ => NoPanic.bind (noPanic_readLE _) fun _ => NoPanic.pure _

theorem noPanic_decBlock : NoPanic decBlock :=
  NoPanic.bind noPanic_decHeader fun _ => NoPanic.bind noPanic_decVarint fun _ =>
  NoPanic.ite _ NoPanic.fail <| NoPanic.bind (noPanic_readMany noPanic_decTx _) fun _ => NoPanic.pure _

end BtcVerif.Model
