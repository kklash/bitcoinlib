/-
  Addresses (C09): `DecodeBase58Address` is the Base58Check decoder followed by a split of the payload
  into version and hash; `Decode` is given by two equations, one for each answer of that decoder.
-/
import BtcVerif.Model.Address
import BtcVerif.Spec.Address
import BtcVerif.Proofs.CheckPayload

namespace BtcVerif.Proofs.Address
open BtcVerif BtcVerif.Model BtcVerif.Model.Address BtcVerif.Gen BtcVerif.Gen.Guards
open BtcVerif.Proofs.CheckPayload

/-- `version <<= 8; version |= uint16(payload[0])` on a `uint16` (address.go, the two-byte version): the
    `% 65536` of the model is that type's width -/
theorem shl8_or {a b : Nat} (ha : a < 256) (hb : b < 256) : ((a <<< 8) % 65536) ||| b = a * 256 + b := by
  rw [Nat.mod_eq_of_lt (by rw [Nat.shiftLeft_eq]; omega), shl_or a 8 b hb]

/-- `DecodeBase58Address` after the checksum test, without the bounds checks of the model: its `.panic`
    branches are unreachable behind the length tests, which `decodeBase58_eq` discharges once -/
def splitPayload : Bytes → Outcome (Nat × Bytes)
  | [] => .err
  | v0 :: rest =>
    if rest.length = 20 then .ok (v0.toNat, rest)
    else if rest.length = 21 then
      if v0.toNat = 0 then .err
      else match rest with
        | [] => .err
        | v1 :: rest' => .ok (v0.toNat * 256 + v1.toNat, rest')
    else .err

theorem decodeBase58_eq (hs : Hashes) (s : Bytes) :
    decodeBase58Address hs s = Base58Check.decode hs.cksum s >>= splitPayload := by
  unfold decodeBase58Address
  cases Base58Check.decode hs.cksum s with
  | err => rfl
  | panic => rfl
  | ok payload =>
    simp only [Outcome.bind_ok, splitPayload, address_DecodeBase58Address_0, address_DecodeBase58Address_1,
      address_DecodeBase58Address_2]
    cases payload with
    | nil => simp
    | cons v0 rest =>
      simp only [List.length_cons]
      by_cases h20 : rest.length = 20
      · simp [h20]
      · by_cases h21 : rest.length = 21
        · simp only [h21]
          cases rest with
          | nil => simp at h21
          | cons v1 rest' =>
            by_cases h0 : v0.toNat = 0
            · simp [h0]
            · simp [h0, shl8_or v0.toNat_lt v1.toNat_lt]
        · have ha : ¬ ((rest.length : Int) + 1 = 21) := by omega
          have hb : ¬ ((rest.length : Int) + 1 = 22) := by omega
          simp [ha, hb, h20, h21]

theorem splitPayload_version (v : Nat) (hv : v < 65536) (h : Bytes) (hl : h.length = 20) :
    splitPayload (Base58Check.versionBytes v ++ h) = .ok (v, h) := by
  by_cases hsmall : v ≤ 255
  · rw [versionBytes_small hsmall]
    simp [splitPayload, hl, UInt8.toNat_ofNat_of_lt' (show v < 256 by omega)]
  · rw [versionBytes_big (by omega)]
    have h1 : v / 256 % 256 = v / 256 := Nat.mod_eq_of_lt (by omega)
    have h2 : (UInt8.ofNat (v / 256)).toNat = v / 256 :=
      UInt8.toNat_ofNat_of_lt' (show _ < 256 by omega)
    have h3 : (UInt8.ofNat (v % 256)).toNat = v % 256 :=
      UInt8.toNat_ofNat_of_lt' (show _ < 256 by omega)
    have h4 : ¬ v / 256 = 0 := by omega
    simp only [splitPayload, List.cons_append, List.nil_append, List.length_cons, hl, h1, h2, h3]
    simp [h4]
    omega

theorem splitPayload_ok {p : Bytes} {v : Nat} {h : Bytes} (hd : splitPayload p = .ok (v, h)) :
    h.length = 20 ∧ v < 65536 ∧ Base58Check.versionBytes v ++ h = p := by
  unfold splitPayload at hd
  cases p with
  | nil => cases hd
  | cons v0 rest =>
    simp only at hd
    have hv0 := v0.toNat_lt
    split at hd
    · rename_i h20
      obtain ⟨rfl, rfl⟩ := Prod.mk.inj (Outcome.ok.inj hd)
      exact ⟨h20, by omega, by rw [versionBytes_byte]; rfl⟩
    · split at hd
      · rename_i h21
        split at hd
        · cases hd
        · cases rest with
          | nil => cases hd
          | cons v1 rest' =>
            obtain ⟨rfl, rfl⟩ := Prod.mk.inj (Outcome.ok.inj hd)
            have hv1 := v1.toNat_lt
            exact ⟨by simpa using h21, by omega, by rw [versionBytes_two v0 v1 (by assumption)]; rfl⟩
      · cases hd

theorem splitPayload_ne_panic (p : Bytes) : splitPayload p ≠ .panic := by
  unfold splitPayload
  cases p with
  | nil => exact nofun
  | cons v0 rest =>
    simp only
    split
    · exact nofun
    · split
      · split
        · exact nofun
        · cases rest <;> exact nofun
      · exact nofun

theorem splitPayload_err {p : Bytes} (h21 : p.length ≠ 21) (h22 : p.length ≠ 22) : splitPayload p = .err := by
  cases p with
  | nil => rfl
  | cons v0 rest =>
    simp only [List.length_cons] at h21 h22
    simp only [splitPayload]
    rw [if_neg (by omega), if_neg (by omega)]

theorem decodeBase58_encodeVersion (hs : Hashes) (hck : ∀ x, (hs.cksum x).length = 4)
    (h : Bytes) (hl : h.length = 20) (v : Nat) (hv : v < 65536) :
    decodeBase58Address hs (Base58Check.encodeVersion hs.cksum h v) = .ok (v, h) := by
  rw [decodeBase58_eq, Base58Check.encodeVersion, decode_encode_bind _ hck, splitPayload_version v hv h hl]

theorem decodeBase58_canonical (hs : Hashes) (s : Bytes) (v : Nat) (h : Bytes)
    (hd : decodeBase58Address hs s = .ok (v, h)) :
    h.length = 20 ∧ v < 65536 ∧ Base58Check.encodeVersion hs.cksum h v = s := by
  rw [decodeBase58_eq] at hd
  obtain ⟨p, _, henc, hp⟩ := decode_bind_eq_ok hd
  obtain ⟨hl, hv, rfl⟩ := splitPayload_ok hp
  exact ⟨hl, hv, henc⟩

theorem decodeBase58_ne_panic (hs : Hashes) (s : Bytes) : decodeBase58Address hs s ≠ .panic := by
  rw [decodeBase58_eq]
  exact decode_bind_ne_panic _ s splitPayload_ne_panic

/-! ### Make and MakeFromHash, with their length tests on natural numbers -/

theorem make_p2pkh (hs : Hashes) (net : Network) (pk : Bytes) :
    make hs net .p2pkh pk =
      if pk.length = 33 ∨ pk.length = 65 then .ok (makeP2PKHFromHash hs net (hs.hash160 pk)) else .err := by
  have hg : address_MakeP2PKHFromPublicKey_0 (len_publicKey := pk.length) =
      !decide (pk.length = 33 ∨ pk.length = 65) := by
    rw [address_MakeP2PKHFromPublicKey_0, ← Bool.decide_and, ← decide_not]
    exact decide_eq_decide.mpr (by omega)
  rw [make, makeP2PKHFromPublicKey, hg]
  by_cases h : pk.length = 33 ∨ pk.length = 65 <;> simp [h]

theorem make_p2wpkh (hs : Hashes) (net : Network) (pk : Bytes) :
    make hs net .p2wpkh pk =
      if pk.length = 33 then makeP2WPKHFromHash net (hs.hash160 pk) else .err := by
  have hg : address_MakeP2WPKHFromPublicKey_0 (len_publicKey := pk.length) = !decide (pk.length = 33) := by
    rw [address_MakeP2WPKHFromPublicKey_0, ← decide_not]
    exact decide_eq_decide.mpr (by omega)
  rw [make, makeP2WPKHFromPublicKey, hg]
  by_cases h : pk.length = 33 <;> simp [h]

/-- `MakeP2WSHFromHash` is `MakeP2WPKHFromHash`: the source has the same body twice, each behind its own
    regenerated test `len(Bech32) == 0`, and the two tests unfold alike. The segwit statements of this
    part speak of `makeP2WPKHFromHash` for both formats. -/
theorem make_witness_eq (net : Network) (h : Bytes) : makeP2WSHFromHash net h = makeP2WPKHFromHash net h := rfl

theorem makeFromHash_nat (hs : Hashes) (net : Network) (fmt : Format) (h : Bytes) :
    makeFromHash hs net fmt h =
      if h.length ≠ (if fmt = .p2wsh then 32 else 20) then .err
      else match fmt with
        | .p2pkh => .ok (makeP2PKHFromHash hs net h)
        | .p2sh => .ok (makeP2SHFromHash hs net h)
        | .p2wpkh => makeP2WPKHFromHash net h
        | .p2wsh => makeP2WSHFromHash net h
        | .other => .err := by
  have hg : address_MakeFromHash_2 (len_hashed := h.length)
      (desiredHashLength := if fmt = .p2wsh then 32 else 20) =
      decide (h.length ≠ (if fmt = .p2wsh then 32 else 20)) := by
    rw [address_MakeFromHash_2]
    split <;> exact decide_eq_decide.mpr (by omega)
  unfold makeFromHash
  simp only [hg, decide_eq_true_eq]
  cases fmt <;> rfl

theorem makeFromHash_segwit (hs : Hashes) (net : Network) {fmt : Format} (h : Bytes)
    (hf : fmt = .p2wpkh ∨ fmt = .p2wsh) :
    makeFromHash hs net fmt h =
      if h.length ≠ (if fmt = .p2wsh then 32 else 20) then .err else makeP2WPKHFromHash net h := by
  rw [makeFromHash_nat]
  rcases hf with rfl | rfl
  · rfl
  · simp only [make_witness_eq]

theorem makeFromHash_of_length (hs : Hashes) (net : Network) (fmt : Format) (h : Bytes)
    (hl : h.length = (if fmt = .p2wsh then 32 else 20)) :
    makeFromHash hs net fmt h =
      match fmt with
      | .p2pkh => .ok (makeP2PKHFromHash hs net h)
      | .p2sh => .ok (makeP2SHFromHash hs net h)
      | .p2wpkh | .p2wsh => makeP2WPKHFromHash net h
      | .other => .err := by
  rw [makeFromHash_nat, if_neg (not_not_intro hl)]
  cases fmt with
  | p2wsh => exact make_witness_eq net h
  | _ => rfl

theorem pushData_small (d : Bytes) (h : d.length ≤ 75) : pushData d = .ok (UInt8.ofNat d.length :: d) := by
  have : script_PushData_0 (dataSize := d.length) = true := by
    simp only [script_PushData_0, decide_eq_true_eq]; omega
  rw [pushData, this, if_pos rfl]

theorem scriptP2PKH_eq (h : Bytes) (hl : h.length = 20) :
    scriptP2PKH h = .ok (Spec.Address.scriptPubKey .p2pkh h) := by
  rw [scriptP2PKH, pushData_small h (by omega), hl]
  simp [Spec.Address.scriptPubKey, opByte, constants_OP_DUP, constants_OP_HASH160,
    constants_OP_EQUALVERIFY, constants_OP_CHECKSIG]

theorem scriptP2SH_eq (h : Bytes) (hl : h.length = 20) :
    scriptP2SH h = .ok (Spec.Address.scriptPubKey .p2sh h) := by
  rw [scriptP2SH, pushData_small h (by omega), hl]
  simp [Spec.Address.scriptPubKey, opByte, constants_OP_HASH160, constants_OP_EQUAL]

theorem scriptWitness_20 (h : Bytes) (hl : h.length = 20) :
    scriptWitness h = .ok (Spec.Address.scriptPubKey .p2wpkh h) := by
  rw [scriptWitness, pushData_small h (by omega), hl]
  simp [Spec.Address.scriptPubKey, opByte, constants_OP_0]

theorem scriptWitness_32 (h : Bytes) (hl : h.length = 32) :
    scriptWitness h = .ok (Spec.Address.scriptPubKey .p2wsh h) := by
  rw [scriptWitness, pushData_small h (by omega), hl]
  simp [Spec.Address.scriptPubKey, opByte, constants_OP_0]

theorem decode_of_base58 (hs : Hashes) (net : Network) {s : Bytes} {v : Nat} {h : Bytes}
    (hb : decodeBase58Address hs s = .ok (v, h)) :
    decode hs net s =
      if v = net.scriptHash then .ok (.p2sh, Spec.Address.scriptPubKey .p2sh h)
      else if v = net.pubkeyHash then .ok (.p2pkh, Spec.Address.scriptPubKey .p2pkh h)
      else .err := by
  have hl := (decodeBase58_canonical hs s v h hb).1
  unfold decode
  rw [hb]
  simp only [address_Decode_0, address_Decode_1, decide_eq_true_eq, scriptP2SH_eq h hl, scriptP2PKH_eq h hl,
    Outcome.map]

theorem decode_of_not_base58 (hs : Hashes) (net : Network) {s : Bytes}
    (hb : decodeBase58Address hs s = .err) :
    decode hs net s =
      match Bech32.decode s with
      | .panic => .panic
      | .err => .err
      | .ok (hrp, wv, prog) =>
        if hrp ≠ net.bech32 ∨ wv ≠ 0 then .err
        else if prog.length = 20 then .ok (.p2wpkh, Spec.Address.scriptPubKey .p2wpkh prog)
        else if prog.length = 32 then .ok (.p2wsh, Spec.Address.scriptPubKey .p2wsh prog)
        else .err := by
  unfold decode decodeBech32Address
  rw [hb]
  cases Bech32.decode s with
  | panic => rfl
  | err => rfl
  | ok r =>
    obtain ⟨hrp, wv, prog⟩ := r
    simp only [address_DecodeBech32Address_0, address_Decode_3, address_Decode_4, address_Decode_5]
    by_cases h20 : prog.length = 20
    · by_cases hh : hrp = net.bech32 <;> by_cases hw : wv = 0 <;>
        simp [h20, hh, hw, scriptWitness_20 prog h20, Outcome.map]
    · by_cases h32 : prog.length = 32
      · by_cases hh : hrp = net.bech32 <;> by_cases hw : wv = 0 <;>
          simp [h32, hh, hw, scriptWitness_32 prog h32, Outcome.map]
      · have a : ((prog.length : Int) ≠ 32) := by omega
        have b : ((prog.length : Int) ≠ 20) := by omega
        simp [a, b, h20, h32]

def WFNet (net : Network) : Prop :=
  net.scriptHash < 65536 ∧ net.pubkeyHash < 65536 ∧ net.scriptHash ≠ net.pubkeyHash

instance (net : Network) : Decidable (WFNet net) := by unfold WFNet; infer_instance

theorem decode_ok {hs : Hashes} {net : Network} {s : Bytes} {fmt : Format} {spk : Bytes}
    (hd : decode hs net s = .ok (fmt, spk)) :
    (∃ h, h.length = 20 ∧
      ((fmt = .p2pkh ∧ spk = Spec.Address.scriptPubKey .p2pkh h ∧ makeP2PKHFromHash hs net h = s) ∨
       (fmt = .p2sh ∧ spk = Spec.Address.scriptPubKey .p2sh h ∧ makeP2SHFromHash hs net h = s))) ∨
    (∃ prog, Bech32.decode s = .ok (net.bech32, 0, prog) ∧
      ((fmt = .p2wpkh ∧ prog.length = 20 ∧ spk = Spec.Address.scriptPubKey .p2wpkh prog) ∨
       (fmt = .p2wsh ∧ prog.length = 32 ∧ spk = Spec.Address.scriptPubKey .p2wsh prog))) := by
  cases hb : decodeBase58Address hs s with
  | panic => exact absurd hb (decodeBase58_ne_panic hs s)
  | ok r =>
    obtain ⟨v, h⟩ := r
    obtain ⟨hl, _, henc⟩ := decodeBase58_canonical hs s v h hb
    rw [decode_of_base58 hs net hb] at hd
    refine Or.inl ⟨h, hl, ?_⟩
    split at hd
    · rename_i hv
      obtain ⟨rfl, rfl⟩ := Prod.mk.inj (Outcome.ok.inj hd)
      exact Or.inr ⟨rfl, rfl, by rw [makeP2SHFromHash, ← hv, henc]⟩
    · split at hd
      · rename_i hv
        obtain ⟨rfl, rfl⟩ := Prod.mk.inj (Outcome.ok.inj hd)
        exact Or.inl ⟨rfl, rfl, by rw [makeP2PKHFromHash, ← hv, henc]⟩
      · cases hd
  | err =>
    rw [decode_of_not_base58 hs net hb] at hd
    cases hbe : Bech32.decode s with
    | panic => rw [hbe] at hd; cases hd
    | err => rw [hbe] at hd; cases hd
    | ok r =>
      obtain ⟨hrp, wv, prog⟩ := r
      rw [hbe] at hd
      simp only at hd
      split at hd
      · cases hd
      · rename_i hnet
        obtain ⟨rfl, rfl⟩ : hrp = net.bech32 ∧ wv = 0 := by
          exact ⟨Decidable.by_contra fun h => hnet (Or.inl h), Decidable.by_contra fun h => hnet (Or.inr h)⟩
        refine Or.inr ⟨prog, rfl, ?_⟩
        split at hd
        · rename_i h20
          obtain ⟨rfl, rfl⟩ := Prod.mk.inj (Outcome.ok.inj hd)
          exact Or.inl ⟨rfl, h20, rfl⟩
        · split at hd
          · rename_i h32
            obtain ⟨rfl, rfl⟩ := Prod.mk.inj (Outcome.ok.inj hd)
            exact Or.inr ⟨rfl, h32, rfl⟩
          · cases hd

theorem decode_p2pkh (hs : Hashes) (hck : ∀ x, (hs.cksum x).length = 4) (net : Network)
    (hnet : WFNet net) (h : Bytes) (hl : h.length = 20) :
    decode hs net (makeP2PKHFromHash hs net h) = .ok (.p2pkh, Spec.Address.scriptPubKey .p2pkh h) := by
  rw [makeP2PKHFromHash, decode_of_base58 hs net (decodeBase58_encodeVersion hs hck h hl _ hnet.2.1),
    if_neg (fun e => hnet.2.2 e.symm), if_pos rfl]

theorem decode_p2sh (hs : Hashes) (hck : ∀ x, (hs.cksum x).length = 4) (net : Network)
    (hnet : WFNet net) (h : Bytes) (hl : h.length = 20) :
    decode hs net (makeP2SHFromHash hs net h) = .ok (.p2sh, Spec.Address.scriptPubKey .p2sh h) := by
  rw [makeP2SHFromHash, decode_of_base58 hs net (decodeBase58_encodeVersion hs hck h hl _ hnet.1), if_pos rfl]

theorem decode_foreign_version (hs : Hashes) (hck : ∀ x, (hs.cksum x).length = 4) (net : Network)
    (h : Bytes) (hl : h.length = 20) (v : Nat) (hv : v < 65536)
    (h1 : v ≠ net.scriptHash) (h2 : v ≠ net.pubkeyHash) :
    decode hs net (Base58Check.encodeVersion hs.cksum h v) = .err := by
  rw [decode_of_base58 hs net (decodeBase58_encodeVersion hs hck h hl v hv), if_neg h1, if_neg h2]

end BtcVerif.Proofs.Address
