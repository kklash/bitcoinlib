/-
C18 — lemmas about Go's slice operations over the explicit heap (`Model/SliceHeap.lean`): which
arrays an operation can change, the negative witness `append_in_place_hazard`, and what the reslicing operations
of the IR (`picks`, `subWindow`, `subCapped`, `subBeyond`) produce.
-/
import BtcVerif.Model.SliceHeap

namespace BtcVerif.Proofs.SliceHeap
open BtcVerif.Model.SliceHeap

def OnlyWrites (h h' : Heap) (a : Nat) : Prop := h'.length = h.length ∧ ∀ a', a' ≠ a → h'[a']? = h[a']?

theorem OnlyWrites.refl (h : Heap) (a : Nat) : OnlyWrites h h a := ⟨rfl, fun _ _ => rfl⟩

theorem OnlyWrites.trans {h h' h'' : Heap} {a : Nat} (h1 : OnlyWrites h h' a) (h2 : OnlyWrites h' h'' a) :
    OnlyWrites h h'' a :=
  ⟨h2.1.trans h1.1, fun a' hne => (h2.2 a' hne).trans (h1.2 a' hne)⟩

theorem onlyWrites_writeAt (h : Heap) (a i : Nat) (b : UInt8) : OnlyWrites h (writeAt h a i b) a := by
  unfold writeAt
  split
  · split
    · exact ⟨List.length_set, fun a' hne => List.getElem?_set_ne (Ne.symm hne)⟩
    · exact .refl h a
  · exact .refl h a

theorem onlyWrites_writeMany (bs : List UInt8) : ∀ (h : Heap) (a i : Nat), OnlyWrites h (writeMany h a i bs) a := by
  induction bs with
  | nil => intro h a i; exact .refl h a
  | cons b bs ih => intro h a i; exact (onlyWrites_writeAt h a i b).trans (ih _ a (i + 1))

theorem onlyWrites_goStore (h : Heap) (t : Slice) (i : Nat) (b : UInt8) : OnlyWrites h (goStore h t i b) t.arr := by
  unfold goStore; split
  · exact onlyWrites_writeAt ..
  · exact .refl h t.arr

theorem onlyWrites_goCopy (h : Heap) (t : Slice) (src : List UInt8) : OnlyWrites h (goCopy h t src) t.arr :=
  onlyWrites_writeMany ..

theorem getElem?_writeAt_self (h : Heap) (a i : Nat) (b : UInt8) (arr : List UInt8)
    (ha : h[a]? = some arr) (hi : i < arr.length) : (writeAt h a i b)[a]? = some (arr.set i b) := by
  unfold writeAt
  rw [ha]; simp only [hi, if_true]
  have : a < h.length := by
    rcases Nat.lt_or_ge a h.length with hlt | hge
    · exact hlt
    · rw [List.getElem?_eq_none hge] at ha; cases ha
  rw [List.getElem?_set_self this]

theorem goAppend_length (h : Heap) (t : Slice) (bs : List UInt8) : h.length ≤ (goAppend h t bs).1.length := by
  unfold goAppend; split
  · exact Nat.le_of_eq (onlyWrites_writeMany ..).1.symm
  · simp

theorem goAppend_other (h : Heap) (t : Slice) (bs : List UInt8) (a' : Nat) (hlt : a' < h.length)
    (hne : a' ≠ t.arr) : (goAppend h t bs).1[a']? = h[a']? := by
  unfold goAppend; split
  · exact (onlyWrites_writeMany ..).2 a' hne
  · exact List.getElem?_append_left hlt

theorem goAppend_res (h : Heap) (t : Slice) (bs : List UInt8) :
    ((goAppend h t bs).2 = { t with len := t.len + bs.length } ∧ t.len + bs.length ≤ t.cap) ∨
    h.length ≤ (goAppend h t bs).2.arr := by
  unfold goAppend; split
  · rename_i hle; left; exact ⟨rfl, hle⟩
  · right; simp

theorem goAppend_arr (h : Heap) (t : Slice) (bs : List UInt8) :
    (goAppend h t bs).2.arr = t.arr ∨ h.length ≤ (goAppend h t bs).2.arr :=
  (goAppend_res h t bs).imp (fun hr => by rw [hr.1]) id

/-- onto a slice whose capacity equals its length (`s[lo:hi:hi]`) `append` never writes an existing
array: with nothing to append nothing is written, otherwise the data goes to a new array -/
theorem goAppend_capped (h : Heap) (t : Slice) (bs : List UInt8) (hc : t.cap = t.len) (a' : Nat)
    (hlt : a' < h.length) : (goAppend h t bs).1[a']? = h[a']? := by
  unfold goAppend; split
  · rename_i hle
    obtain rfl : bs = [] := List.eq_nil_of_length_eq_zero (by omega)
    rfl
  · exact List.getElem?_append_left hlt

theorem goAppend_capped_res (h : Heap) (t : Slice) (bs : List UInt8) (hc : t.cap = t.len) :
    (goAppend h t bs).2 = t ∨ h.length ≤ (goAppend h t bs).2.arr :=
  (goAppend_res h t bs).imp (fun ⟨hr, hle⟩ => by rw [hr, show bs.length = 0 by omega]; rfl) id

/-! ## the negative witness: why `append` onto a caller's slice that may have spare capacity is rejected -/

/-- **The hazard.** For every heap, every well-formed slice with at least one byte of spare capacity
and every byte `b` different from the byte that lies just behind the visible window, `append(s, b)`
is done in place and changes the caller's array at exactly that position — memory the callee was
never given as part of the slice's contents.  (Every slice has such a capacity for some caller: this
is the witness that justifies `stmtOk` rejecting an `append` onto caller-tagged memory unless the register is
declared `cap = len` or the tag is in `touches`.) -/
theorem append_in_place_hazard (h : Heap) (s : Slice) (b : UInt8) (arr : List UInt8)
    (harr : h[s.arr]? = some arr) (hin : s.off + s.cap ≤ arr.length) (hspare : s.len < s.cap)
    (hb : arr[s.off + s.len]? ≠ some b) :
    (goAppend h s [b]).1[s.arr]? = some (arr.set (s.off + s.len) b) ∧
    (goAppend h s [b]).1[s.arr]? ≠ h[s.arr]? ∧
    (goAppend h s [b]).2 = { s with len := s.len + 1 } := by
  have hle : s.len + [b].length ≤ s.cap := by simp; omega
  have hi : s.off + s.len < arr.length := by omega
  have h1 : (goAppend h s [b]).1[s.arr]? = some (arr.set (s.off + s.len) b) := by
    unfold goAppend; rw [if_pos hle]; simp only [writeMany]
    exact getElem?_writeAt_self h s.arr _ b arr harr hi
  refine ⟨h1, ?_, ?_⟩
  · rw [h1, harr]
    intro heq
    have := congrArg (fun l => l[s.off + s.len]?) (Option.some.inj heq)
    simp only [List.getElem?_set_self hi] at this
    exact hb this.symm
  · unfold goAppend; rw [if_pos hle]; simp

theorem mem_picks {mk : Slice → Nat → Nat → Option Slice} {srcs : List Slice} {s : Slice} :
    ∀ {ns : List Nat}, s ∈ picks mk srcs ns → ∃ t ∈ srcs, ∃ lo hi, mk t lo hi = some s
  | i :: lo :: hi :: rest, hs => by
    simp only [picks, List.mem_append] at hs
    rcases hs with hs | hs
    · split at hs
      · rename_i t ht
        split at hs
        · rename_i s' hs'
          obtain rfl := List.mem_singleton.mp hs
          exact ⟨t, List.mem_of_getElem? ht, lo, hi, hs'⟩
        · cases hs
      · cases hs
    · exact mem_picks hs
  | [], hs | [_], hs | [_, _], hs => by simp [picks] at hs

/-- `s` is a sub-window of the visible window of `t` -/
def Within (s t : Slice) : Prop := s.arr = t.arr ∧ t.off ≤ s.off ∧ s.off + s.len ≤ t.off + t.len

theorem Within.refl (s : Slice) : Within s s := ⟨rfl, Nat.le_refl _, Nat.le_refl _⟩

theorem Within.trans {a b c : Slice} (h1 : Within a b) (h2 : Within b c) : Within a c :=
  ⟨h1.1.trans h2.1, Nat.le_trans h2.2.1 h1.2.1, Nat.le_trans h1.2.2 h2.2.2⟩

theorem subWindow_within {t : Slice} {lo hi : Nat} {s : Slice} (h : subWindow t lo hi = some s) : Within s t := by
  unfold subWindow at h; split at h
  · cases h
    refine ⟨rfl, Nat.le_add_right _ _, ?_⟩
    dsimp only; omega
  · cases h

theorem subCapped_within {t : Slice} {lo hi : Nat} {s : Slice} (h : subCapped t lo hi = some s) :
    Within s t ∧ s.cap = s.len := by
  unfold subCapped at h; split at h
  · cases h
    refine ⟨⟨rfl, Nat.le_add_right _ _, ?_⟩, rfl⟩
    dsimp only; omega
  · cases h

theorem subBeyond_arr {t : Slice} {lo hi : Nat} {s : Slice} (h : subBeyond t lo hi = some s) : s.arr = t.arr := by
  unfold subBeyond at h; split at h
  · cases h; rfl
  · cases h

theorem subset_mem {a b : List Nat} (h : subset a b = true) : ∀ x ∈ a, x ∈ b := by
  intro x hx
  simpa using List.all_eq_true.mp h x hx

end BtcVerif.Proofs.SliceHeap
