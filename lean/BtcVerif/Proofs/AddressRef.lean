/-
  The model's Base58 / Base58Check encoder equals the independent reference encoder of
  `Spec/Address.lean` (used by C09 and C10).
-/
import BtcVerif.Proofs.Address

namespace BtcVerif.Proofs.Address
open BtcVerif BtcVerif.Model BtcVerif.Model.Address BtcVerif.Proofs.Base58 BtcVerif.Proofs.Digits

theorem b58chars_eq : Spec.Address.b58chars = Base58.alphabet := by decide +kernel

theorem value_eq (bs : Bytes) : ∀ acc, Spec.Address.value bs acc = acc * 256 ^ bs.length + beNat bs := by
  induction bs with
  | nil => intro acc; simp [Spec.Address.value, beNat, leNat]
  | cons b bs ih =>
    intro acc
    rw [Spec.Address.value, ih, beNat_eq, beNat_eq, List.map_cons, ofDigits_cons, List.length_map,
      List.length_cons, Nat.pow_succ, Nat.add_mul, Nat.mul_assoc, Nat.mul_comm 256, Nat.add_assoc]

theorem digitsLE_rev : ∀ (fuel n : Nat), n < 58 ^ fuel →
    (Spec.Address.digitsLE fuel n).reverse = toDigits 58 n [] := by
  intro fuel
  induction fuel with
  | zero =>
    intro n h
    have : n = 0 := by simpa using h
    subst this
    simp [Spec.Address.digitsLE, toDigits_zero]
  | succ fuel ih =>
    intro n h
    by_cases hn : n = 0
    · subst hn; simp [Spec.Address.digitsLE, toDigits_zero]
    · simp only [Spec.Address.digitsLE, hn, if_false, List.reverse_cons]
      have hlt : n / 58 < 58 ^ fuel := by
        rw [Nat.div_lt_iff_lt_mul (by decide)]
        rw [Nat.pow_succ] at h; exact h
      rw [ih _ hlt, toDigits_snoc (by decide) hn]

theorem takeWhile_zeros (bs : Bytes) : (bs.takeWhile (· = 0)).length = Base58.leadingZeros bs := by
  induction bs with
  | nil => rfl
  | cons b bs ih =>
    unfold Base58.leadingZeros
    by_cases hb : b = 0
    · subst hb
      simp only [List.takeWhile_cons, decide_true, if_true, List.length_cons, ih]
      simp [Gen.Guards.base58_Encode_2]
    · have : ¬ b.toNat = 0 := fun h => hb (UInt8.toNat_inj.mp h)
      simp [hb, Gen.Guards.base58_Encode_2, this]

theorem b58chars_get {d : Nat} (hd : d < 58) : Spec.Address.b58chars[d]? = some (dchar d) := by
  have hlt : d < Base58.radix := by rw [Base58.radix_eq]; exact hd
  rw [b58chars_eq, dchar, dif_pos hlt]
  exact List.getElem?_eq_getElem hlt

theorem filterMap_chars (ds : List Nat) (h : ∀ d ∈ ds, d < 58) :
    ds.filterMap (fun d => Spec.Address.b58chars[d]?) = ds.map dchar := by
  induction ds with
  | nil => rfl
  | cons d ds ih =>
    rw [List.filterMap_cons, b58chars_get (h d (by simp)), List.map_cons,
      ih (fun x hx => h x (by simp [hx]))]

theorem base58_eq_spec (bs : Bytes) : Base58.encode bs = Spec.Address.base58 bs := by
  unfold Spec.Address.base58 Base58.encode
  simp only
  rw [takeWhile_zeros, Base58.encLoop_eq, one_eq, List.append_nil]
  have hv : Spec.Address.value bs 0 = beNat bs := by rw [value_eq]; simp
  rw [hv]
  have hlt : beNat bs < 58 ^ (2 * bs.length + 1) := by
    have h1 : beNat bs < 256 ^ bs.length := by
      have := leNat_lt bs.reverse
      rwa [List.length_reverse] at this
    have h2 : 256 ^ bs.length ≤ 58 ^ (2 * bs.length) := by
      rw [Nat.pow_mul]
      exact Nat.pow_le_pow_left (by decide) _
    have h3 : 58 ^ (2 * bs.length) ≤ 58 ^ (2 * bs.length + 1) := Nat.pow_le_pow_right (by decide) (by omega)
    omega
  rw [digitsLE_rev _ _ hlt, filterMap_chars _ (toDigits_lt (by decide) _),
    show dchar 0 = 0x31 from Option.some.inj ((b58chars_get (by decide)).symm.trans rfl)]

theorem base58check_eq_spec (ck : Bytes → Bytes) (payload : Bytes) :
    Base58Check.encode ck payload = Spec.Address.base58check ck payload := by
  unfold Base58Check.encode Spec.Address.base58check
  exact base58_eq_spec _

end BtcVerif.Proofs.Address
