import BtcVerif.Proofs.Address
import BtcVerif.Proofs.Bech32Ref

/-! C17: `address.Decode` never panics (the Base58Check and Bech32 decoders do not, the payload
    indexing is guarded by the length tests, and only 20/32-byte programs are pushed). -/
namespace BtcVerif.Model.Address
open BtcVerif BtcVerif.Model

theorem decode_ne_panic (hs : Hashes) (net : Network) (s : Bytes) : decode hs net s ≠ .panic := by
  cases hb : decodeBase58Address hs s with
  | panic => exact absurd hb (Proofs.Address.decodeBase58_ne_panic hs s)
  | ok r =>
    rw [Proofs.Address.decode_of_base58 hs net hb]
    split
    · exact nofun
    · split <;> exact nofun
  | err =>
    rw [Proofs.Address.decode_of_not_base58 hs net hb]
    cases hd : Bech32.decode s with
    | panic => exact absurd hd (Proofs.Bech32.decode_ne_panic s)
    | err => exact nofun
    | ok r =>
      simp only
      split
      · exact nofun
      · split
        · exact nofun
        · split <;> exact nofun

end BtcVerif.Model.Address
