/-
  BIP38 encrypted keys (C10): what a successful `Decrypt` implies (flag strictness, the address-hash
  check) and the two round trips. The primitives are abstract (`Bip38.Prims`); byte strings are
  reasoned about as concatenations of named blocks; `take`/`drop` occur only in `slice_of_append` and
  where the model truncates a block that already has the length (`x.take n = x`).
-/
import BtcVerif.Model.Bip38
import BtcVerif.Proofs.CheckPayload

namespace BtcVerif.Proofs.Bip38
open BtcVerif BtcVerif.Model BtcVerif.Model.Bip38 BtcVerif.Gen.Guards
open BtcVerif.Outcome (bind_of_ok)

theorem slice_of_append {s a b c : Bytes} {lo hi : Nat} (hs : s = a ++ b ++ c) (ha : a.length = lo)
    (hb : lo + b.length = hi) : slice s lo hi = .ok b := by
  subst hs ha hb
  unfold slice
  rw [if_pos ⟨Nat.le_add_right _ _, by rw [← List.length_append, List.length_append (as := a ++ b)]; exact Nat.le_add_right _ _⟩,
    ← List.length_append, List.take_left, List.drop_left]

theorem slice_halves (a b : Bytes) {n : Nat} (ha : a.length = n) :
    slice (a ++ b) 0 n = .ok a ∧ slice (a ++ b) n (a ++ b).length = .ok b :=
  ⟨slice_of_append (a := []) rfl rfl (by rw [ha, Nat.zero_add]),
    slice_of_append (c := []) (List.append_nil _).symm ha (by rw [← ha, List.length_append])⟩

theorem slice_ne_err (s : Bytes) (lo hi : Nat) : slice s lo hi ≠ .err := by
  unfold slice; split <;> simp

theorem xorBytes_ok (a b : Bytes) (h : a.length = b.length) :
    xorBytes a b = .ok (List.zipWith (· ^^^ ·) a b) := by
  unfold xorBytes; rw [if_neg (by simpa using h)]

theorem xor_cancel : ∀ (a b : Bytes), a.length = b.length →
    List.zipWith (· ^^^ ·) (List.zipWith (· ^^^ ·) a b) b = a := by
  intro a
  induction a with
  | nil => intro b h; cases b <;> simp_all
  | cons x xs ih =>
    intro b h
    cases b with
    | nil => simp at h
    | cons y ys =>
      simp only [List.zipWith_cons_cons]
      rw [ih ys (by simpa using h)]
      congr 1
      rw [UInt8.xor_assoc, UInt8.xor_self, UInt8.xor_zero]

theorem zipWith_length (a b : Bytes) (h : a.length = b.length) :
    (List.zipWith (· ^^^ ·) a b).length = a.length := by
  simp [h]

/-- the common tail of `decrypt` and `decryptECMult`: a flag test, then the key with the flag bit -/
theorem guard_map_eq_ok {g b c : Bool} {x : Outcome Bytes} {k : Bytes} :
    (if g = true then .err else x.map fun k => (k, b)) = Outcome.ok (k, c) ↔ g = false ∧ x = .ok k ∧ b = c := by
  cases g with
  | true => exact ⟨nofun, nofun⟩
  | false =>
    rw [if_neg Bool.false_ne_true, Outcome.map_eq_ok]
    exact ⟨fun ⟨_, hk, he⟩ => ⟨rfl, by rw [hk, (Prod.mk.inj he).1], (Prod.mk.inj he).2⟩,
      fun ⟨_, hk, hb⟩ => ⟨k, hk, by rw [hb]⟩⟩

theorem flag_plain_cases (f : UInt8) (h : f.toNat ||| 32 = 224) : f = 0xc0 ∨ f = 0xe0 := by
  have : ∀ n, n < 256 → n ||| 32 = 224 → n = 192 ∨ n = 224 := by decide +kernel
  exact (this f.toNat f.toNat_lt h).imp UInt8.toNat_inj.mp UInt8.toNat_inj.mp

theorem decryptPlain_eq_ok (P : Prims) (d pw k : Bytes) (c : Bool) :
    decryptPlain P d pw = .ok (k, c) ↔ ∃ flag, d[2]? = some flag ∧ flag.toNat ||| 32 = 224 ∧
      plainKey P d pw = .ok k ∧ decide (flag.toNat &&& 32 ≠ 0) = c := by
  unfold decryptPlain
  cases d[2]? with
  | none => exact ⟨nofun, nofun⟩
  | some flag =>
    rw [guard_map_eq_ok]
    simp only [bip38_decrypt_0, bip38_decrypt_asg0, decide_eq_false_iff_not, Decidable.not_not,
      Option.some.injEq, exists_eq_left']

theorem decryptEC_eq_ok (P : Prims) (d pw k : Bytes) (c : Bool) :
    decryptEC P d pw = .ok (k, c) ↔ ∃ flag, d[2]? = some flag ∧ flag.toNat &&& 219 = 0 ∧
      ecKey P d pw (decide (flag.toNat &&& 4 ≠ 0)) = .ok k ∧ decide (flag.toNat &&& 32 ≠ 0) = c := by
  unfold decryptEC
  cases d[2]? with
  | none => exact ⟨nofun, nofun⟩
  | some flag =>
    rw [guard_map_eq_ok]
    simp only [bip38_decryptECMult_0, bip38_decryptECMult_asg0, bip38_decryptECMult_asg1,
      decide_eq_false_iff_not, Decidable.not_not, Option.some.injEq, exists_eq_left']

theorem checkAddress_ok (P : Prims) (d : Bytes) (r r' : Bytes × Bool) (h : checkAddress P d r = .ok r') :
    r' = r ∧ ∃ addr, deriveAddress P r.1 r.2 = .ok addr ∧ slice (P.dsha256 addr) 0 4 = slice d 3 7 := by
  unfold checkAddress at h
  split at h
  · cases h
  · cases h
  · rename_i addr ha
    split at h
    · rename_i addressHash derived h1 h2
      split at h
      · cases h
      · rename_i hg
        have heq : derived = addressHash := by simpa [bip38_Decrypt_4] using hg
        exact ⟨(Outcome.ok.inj h).symm, addr, ha, by rw [h1, h2, heq]⟩
    · cases h

/-- `Decrypt` after the checksum test; a payload of 39 bytes has the bytes 0 and 1 the code indexes -/
def decryptPayload (P : Prims) (pw d : Bytes) : Outcome (Bytes × Bool) :=
  if d.length ≠ 39 then .err
  else if d[0]? ≠ some 1 then .err
  else (if d[1]? = some 0x43 then decryptEC P d pw else if d[1]? = some 0x42 then decryptPlain P d pw else .err) >>=
    checkAddress P d

theorem decrypt_eq (P : Prims) (s pw : Bytes) :
    decrypt P s pw = Base58Check.decode P.cksum s >>= decryptPayload P pw := by
  unfold decrypt
  cases Base58Check.decode P.cksum s with
  | err => rfl
  | panic => rfl
  | ok d =>
    have h0 : bip38_Decrypt_0 (len_decodedEncryptedKey := d.length) = decide (d.length ≠ 39) :=
      lenGuard _ 39
    simp only [Outcome.bind_ok, decryptPayload, h0, decide_eq_true_eq]
    by_cases hl : d.length ≠ 39
    · rw [if_pos hl, if_pos hl]
    · rw [if_neg hl, if_neg hl]
      match d, hl with
      | [], hl => simp at hl
      | [_], hl => simp at hl
      | b0 :: b1 :: t, _ =>
        simp only [List.getElem?_cons_zero, List.getElem?_cons_succ, bip38_Decrypt_1, bip38_Decrypt_2,
          bip38_Decrypt_3, decide_eq_true_eq, ne_eq, Option.some.injEq, ← UInt8.toNat_inj, UInt8.toNat_ofNat,
          Nat.reducePow, Nat.reduceMod]
        by_cases hb0 : b0.toNat = 1
        · rw [if_neg (not_not_intro hb0), if_neg (not_not_intro hb0)]
          generalize (if b1.toNat = 67 then decryptEC P (b0 :: b1 :: t) pw else _) = inner
          cases inner <;> rfl
        · rw [if_pos hb0, if_pos hb0]

theorem decrypt_ok (P : Prims) (s pw k : Bytes) (c : Bool) (h : decrypt P s pw = .ok (k, c)) :
    ∃ d flag, Base58Check.decode P.cksum s = .ok d ∧ d.length = 39 ∧ d[0]? = some 1 ∧ d[2]? = some flag ∧
      ((d[1]? = some 0x42 ∧ (flag = 0xc0 ∨ flag = 0xe0)) ∨ (d[1]? = some 0x43 ∧ flag.toNat &&& 219 = 0)) ∧
      c = decide (flag.toNat &&& 32 ≠ 0) ∧
      ∃ addr, deriveAddress P k c = .ok addr ∧ slice (P.dsha256 addr) 0 4 = slice d 3 7 := by
  rw [decrypt_eq] at h
  obtain ⟨d, hd, _, hp⟩ := CheckPayload.decode_bind_eq_ok h
  unfold decryptPayload at hp
  by_cases hl : d.length = 39
  · by_cases h0 : d[0]? = some 1
    · rw [if_neg (not_not_intro hl), if_neg (not_not_intro h0)] at hp
      obtain ⟨r, hin, hchk⟩ := Outcome.bind_eq_ok.mp hp
      obtain ⟨rfl, addr, hda, hslice⟩ := checkAddress_ok P d r (k, c) hchk
      by_cases hec : d[1]? = some 0x43
      · rw [if_pos hec] at hin
        obtain ⟨flag, hf, hflag, _, hc⟩ := (decryptEC_eq_ok P d pw k c).mp hin
        exact ⟨d, flag, hd, hl, h0, hf, Or.inr ⟨hec, hflag⟩, hc.symm, addr, hda, hslice⟩
      · rw [if_neg hec] at hin
        by_cases hpl : d[1]? = some 0x42
        · rw [if_pos hpl] at hin
          obtain ⟨flag, hf, hflag, _, hc⟩ := (decryptPlain_eq_ok P d pw k c).mp hin
          exact ⟨d, flag, hd, hl, h0, hf, Or.inl ⟨hpl, flag_plain_cases flag hflag⟩, hc.symm, addr, hda, hslice⟩
        · rw [if_neg hpl] at hin; cases hin
    · rw [if_neg (not_not_intro hl), if_pos h0] at hp; cases hp
  · rw [if_pos hl] at hp; cases hp

/-- what the abstract primitives must satisfy: AES decryption inverts encryption, the
    encryption of a 16-byte block has 16 bytes, `scrypt` returns the length it is asked for, the double
    SHA-256 32 bytes and the checksum 4 -/
structure Good (P : Prims) : Prop where
  aes_inv : ∀ key x, P.aesDec key (P.aesEnc key x) = x
  aes_len : ∀ key x, x.length = 16 → (P.aesEnc key x).length = 16
  scrypt_len : ∀ pw salt N r p n, (P.scrypt pw salt N r p n).length = n
  dsha_len : ∀ x, (P.dsha256 x).length = 32
  ck_len : ∀ x, (P.cksum x).length = 4

/-- the flag byte: `0xe0 = 224` are the two fixed high bits and bit `0x20 = 32` (compressed) of a
    non-EC key (bip38.go `decrypt`); an EC-multiplied key may set only `0x20` and `0x04` (lot/sequence),
    `219 = 0xff - 0x24` (ec_mult.go `decryptECMult`) -/
theorem flag_plain (c : Bool) :
    (encodeFlagByte c false false).toNat ||| 32 = 224 ∧
    decide ((encodeFlagByte c false false).toNat &&& 32 ≠ 0) = c := by
  cases c <;> decide

theorem flag_ec (c lot : Bool) :
    (encodeFlagByte c true lot).toNat &&& 219 = 0 ∧
    decide ((encodeFlagByte c true lot).toNat &&& 32 ≠ 0) = c ∧
    decide ((encodeFlagByte c true lot).toNat &&& 4 ≠ 0) = lot := by
  cases c <;> cases lot <;> decide

theorem xor_aes {P : Prims} (g : Good P) (dk m k : Bytes) (h : m.length = k.length) :
    xorBytes (P.aesDec dk (P.aesEnc dk (List.zipWith (· ^^^ ·) m k))) k = .ok m := by
  rw [g.aes_inv, xorBytes_ok _ _ (by rw [List.length_zipWith, h, Nat.min_self]), xor_cancel _ _ h]

theorem derivedKey_slices (sk : Bytes) (h : sk.length = 64) :
    ∃ ka kb dk2, ka.length = 16 ∧ kb.length = 16 ∧ slice sk 0 32 = .ok (ka ++ kb) ∧
      slice sk 32 sk.length = .ok dk2 ∧ slice (ka ++ kb) 0 16 = .ok ka ∧
      slice (ka ++ kb) 16 (ka ++ kb).length = .ok kb := by
  obtain ⟨dk1, dk2, rfl, h1, _⟩ := CheckPayload.exists_append (n := 32) (m := 32) sk h
  obtain ⟨ka, kb, rfl, ha, hb⟩ := CheckPayload.exists_append (n := 16) (m := 16) dk1 h1
  exact ⟨ka, kb, dk2, ha, hb, (slice_halves _ dk2 h1).1, (slice_halves _ dk2 h1).2,
    (slice_halves ka kb ha).1, (slice_halves ka kb ha).2⟩

theorem addressHash_slice {P : Prims} (g : Good P) (addr : Bytes) :
    ∃ ah, ah.length = 4 ∧ slice (P.dsha256 addr) 0 4 = .ok ah := by
  obtain ⟨ah, t, hh, hl, _⟩ := CheckPayload.exists_append (n := 4) (m := 28) _ (g.dsha_len addr)
  exact ⟨ah, hl, by rw [hh]; exact (slice_halves ah t hl).1⟩

theorem payload_fields {d : Bytes} {b1 f : UInt8} {ah x y e2 : Bytes}
    (hd : d = [0x01, b1, f] ++ ah ++ x ++ y ++ e2) (hah : ah.length = 4) (hx : x.length = 8)
    (hy : y.length = 8) (he2 : e2.length = 16) :
    d.length = 39 ∧ d[0]? = some 1 ∧ d[1]? = some b1 ∧ d[2]? = some f ∧ slice d 3 7 = .ok ah ∧
      slice d 7 15 = .ok x ∧ slice d 15 23 = .ok y ∧ slice d 7 23 = .ok (x ++ y) ∧
      slice d 23 d.length = .ok e2 := by
  subst hd
  have hl : ([0x01, b1, f] ++ ah ++ x ++ y ++ e2).length = 39 := by simp [hah, hx, hy, he2]
  have h7 : ([0x01, b1, f] ++ ah).length = 7 := by simp [hah]
  exact ⟨hl, rfl, rfl, rfl,
    slice_of_append (a := [0x01, b1, f]) (c := x ++ y ++ e2) (by simp) rfl (by rw [hah]),
    slice_of_append (a := [0x01, b1, f] ++ ah) (c := y ++ e2) (by simp) h7 (by rw [hx]),
    slice_of_append (a := [0x01, b1, f] ++ ah ++ x) (c := e2) rfl (by simp [hah, hx]) (by rw [hy]),
    slice_of_append (a := [0x01, b1, f] ++ ah) (c := e2) (by simp) h7 (by simp [hx, hy]),
    slice_of_append (a := [0x01, b1, f] ++ ah ++ x ++ y) (c := []) (by simp) (by simp [hah, hx, hy])
      (by rw [hl, he2])⟩

theorem decrypt_encode {P : Prims} (g : Good P) (d pw : Bytes) (hl : d.length = 39) (h0 : d[0]? = some 1) :
    decrypt P (Base58Check.encode P.cksum d) pw =
      (if d[1]? = some 0x43 then decryptEC P d pw else if d[1]? = some 0x42 then decryptPlain P d pw else .err) >>=
        checkAddress P d := by
  rw [decrypt_eq, CheckPayload.decode_encode_bind _ g.ck_len, decryptPayload, if_neg (not_not_intro hl),
    if_neg (not_not_intro h0)]

theorem checkAddress_of_hash (P : Prims) (d : Bytes) (r : Bytes × Bool) (addr hash : Bytes)
    (hda : deriveAddress P r.1 r.2 = .ok addr) (h1 : slice d 3 7 = .ok hash)
    (h2 : slice (P.dsha256 addr) 0 4 = .ok hash) : checkAddress P d r = .ok r := by
  unfold checkAddress
  rw [hda]
  simp only [h1, h2, bip38_Decrypt_4, BEq.rfl, Bool.not_true, Bool.false_eq_true, if_false]

/-- Both round trips run the encryption symbolically to a payload `d` given as named blocks, then run
    the decryption on `d`; `payload_fields` is where the two meet. -/
theorem decrypt_encrypt (P : Prims) (g : Good P) (key pw : Bytes) (c : Bool) (hk : key.length = 32)
    (addr : Bytes) (hda : deriveAddress P key c = .ok addr) :
    ∃ s, encrypt P key pw c = .ok s ∧ decrypt P s pw = .ok (key, c) := by
  -- the blocks: key = k1 ‖ k2, derived key = ka ‖ kb ‖ dk2, first ciphertext block = x ‖ y
  obtain ⟨k1, k2, rfl, hk1, hk2⟩ := CheckPayload.exists_append (n := 16) (m := 16) key hk
  obtain ⟨s_k1, s_k2⟩ := slice_halves k1 k2 hk1
  obtain ⟨salt, hsl, s_salt⟩ := addressHash_slice g addr
  obtain ⟨ka, kb, dk2, hka, hkb, s_dk1, s_dk2, s_ka, s_kb⟩ :=
    derivedKey_slices _ (g.scrypt_len pw salt 16384 8 8 64)
  have x1 := xorBytes_ok k1 ka (by rw [hk1, hka])
  have x2 := xorBytes_ok k2 kb (by rw [hk2, hkb])
  obtain ⟨x, y, he1, hx, hy⟩ := CheckPayload.exists_append (n := 8) (m := 8) _
    (g.aes_len dk2 (List.zipWith (· ^^^ ·) k1 ka) (by simp [hk1, hka]))
  obtain ⟨e2, he2⟩ : ∃ e2, P.aesEnc dk2 (List.zipWith (· ^^^ ·) k2 kb) = e2 := ⟨_, rfl⟩
  have he2l : e2.length = 16 := by rw [← he2]; exact g.aes_len _ _ (by simp [hk2, hkb])
  obtain ⟨d, hd⟩ : ∃ d, d = [0x01, 0x42, encodeFlagByte c false false] ++ salt ++ x ++ y ++ e2 := ⟨_, rfl⟩
  obtain ⟨hl, h0, h1, h2, l37, _, _, l723, l23⟩ := payload_fields hd hsl hx hy he2l
  have hg : bip38_Encrypt_0 (len_privateKey := (k1 ++ k2).length) = false := by rw [hk]; rfl
  have henc : encrypt P (k1 ++ k2) pw c = .ok (Base58Check.encode P.cksum d) := by
    unfold encrypt
    -- the long `do` blocks of this file are run action by action with `bind_of_ok`, at the head of the
    -- term: `simp` with the same facts rewrites under every binder of the block
    rw [hg, if_neg Bool.false_ne_true, bind_of_ok hda, bind_of_ok s_salt, bind_of_ok s_dk1, bind_of_ok s_dk2,
      bind_of_ok s_k1, bind_of_ok s_k2, bind_of_ok s_ka, bind_of_ok s_kb, bind_of_ok x1, bind_of_ok x2, he1, he2,
      hd]
    simp [prefixBytes, bip38_prefixBytes_0]
  refine ⟨_, henc, ?_⟩
  have hplain : plainKey P d pw = .ok (k1 ++ k2) := by
    have y1 : xorBytes (P.aesDec dk2 (x ++ y)) ka = .ok k1 := by
      rw [← he1]; exact xor_aes g dk2 k1 ka (by rw [hk1, hka])
    have y2 : xorBytes (P.aesDec dk2 e2) kb = .ok k2 := by
      rw [← he2]; exact xor_aes g dk2 k2 kb (by rw [hk2, hkb])
    unfold plainKey
    rw [bind_of_ok l37, bind_of_ok s_dk1, bind_of_ok s_dk2, bind_of_ok l723, bind_of_ok l23, bind_of_ok s_ka,
      bind_of_ok s_kb, bind_of_ok y1, bind_of_ok y2]
    rfl
  rw [decrypt_encode g d pw hl h0, h1, if_neg (by decide), if_pos rfl,
    (decryptPlain_eq_ok P d pw _ c).mpr ⟨_, h2, (flag_plain c).1, hplain, (flag_plain c).2⟩]
  exact checkAddress_of_hash P d _ addr salt hda l37 s_salt

theorem magic_select (useLot : Bool) :
    (if useLot then magicLot else magicPlain).length = 8 ∧
    (if bip38_EncryptIntermediateCode_1
        (call_bytes_Equal_intermediateCode_8_intermediateCodeMagicBytesLotSequence :=
          ((if useLot then magicLot else magicPlain) == magicLot)) then (Outcome.ok true : Outcome Bool)
      else if bip38_EncryptIntermediateCode_2
        (call_bytes_Equal_intermediateCode_8_intermediateCodeMagicBytes :=
          ((if useLot then magicLot else magicPlain) == magicPlain)) then .ok false
      else .err) = .ok useLot := by
  cases useLot <;> decide

/-- Encrypting with an intermediate code and decrypting with the passphrase the code was made
    from returns the key `factorb · passfactor mod N` — provided the two ways of computing the
    public key agree (`hcomm`: the group law `(fb·pf)·G = fb·(pf·G)`, owned by C06). -/
theorem ec_roundtrip (P : Prims) (g : Good P) (useLot : Bool) (oe pw pf pp seedb : Bytes) (c : Bool)
    (hoe : oe.length = 8) (hpf : passFactorOf P useLot pw oe = .ok pf) (hpp : P.baseMul pf = .ok pp)
    (hppl : pp.length = 33) (hsl : seedb.length = 24) (pub addr : Bytes)
    (hpub : P.pointMul pp (P.dsha256 seedb) c = .ok pub) (haddr : P.p2pkh pub = .ok addr)
    (hcomm : P.pubKey (P.mulModN (P.dsha256 seedb) pf) c = .ok pub) :
    ∃ s, encryptIntermediateCode P seedb
        (Base58Check.encode P.cksum ((if useLot then magicLot else magicPlain) ++ oe ++ pp)) c = .ok s ∧
      decrypt P s pw = .ok (P.mulModN (P.dsha256 seedb) pf, c) := by
  -- the intermediate code `magic ‖ oe ‖ pp` and its fields
  obtain ⟨hmagl, huse⟩ := magic_select useLot
  generalize (if useLot then magicLot else magicPlain) = magic at hmagl huse ⊢
  have hicl : (magic ++ oe ++ pp).length = 49 := by simp [hmagl, hoe, hppl]
  have i_magic : slice (magic ++ oe ++ pp) 0 8 = .ok magic :=
    slice_of_append (a := []) (c := oe ++ pp) (by simp) rfl (by rw [hmagl])
  have i_oe : slice (magic ++ oe ++ pp) 8 16 = .ok oe := slice_of_append rfl hmagl (by rw [hoe])
  have i_pp : slice (magic ++ oe ++ pp) 16 (magic ++ oe ++ pp).length = .ok pp :=
    slice_of_append (a := magic ++ oe) (c := []) (by simp) (by simp [hmagl, hoe]) (by rw [hicl, hppl])
  -- the blocks: seedb = s1 ‖ s2, derived key = ka ‖ (kb1 ‖ kb2) ‖ dk2, first ciphertext block = eh ‖ et
  obtain ⟨s1, s2, rfl, hs1, hs2⟩ := CheckPayload.exists_append (n := 16) (m := 8) seedb hsl
  obtain ⟨s_s1, s_s2⟩ := slice_halves s1 s2 hs1
  obtain ⟨ah, hahl, s_ah⟩ := addressHash_slice g addr
  obtain ⟨ka, kb, dk2, hka, hkb, s_dk1, s_dk2, s_ka, s_kb⟩ :=
    derivedKey_slices _ (g.scrypt_len pp (ah ++ oe) 1024 1 1 64)
  obtain ⟨kb1, kb2, rfl, hkb1, hkb2⟩ := CheckPayload.exists_append (n := 8) (m := 8) kb hkb
  have s_kb1 : slice (ka ++ (kb1 ++ kb2)) 16 24 = .ok kb1 :=
    slice_of_append (c := kb2) (by simp) hka (by rw [hkb1])
  have s_kb2 : slice (ka ++ (kb1 ++ kb2)) 24 (ka ++ (kb1 ++ kb2)).length = .ok kb2 :=
    slice_of_append (a := ka ++ kb1) (c := []) (by simp) (by simp [hka, hkb1]) (by simp [hka, hkb1, hkb2])
  have x1 := xorBytes_ok s1 ka (by rw [hs1, hka])
  obtain ⟨eh, et, he1, heh, het⟩ := CheckPayload.exists_append (n := 8) (m := 8) _
    (g.aes_len dk2 (List.zipWith (· ^^^ ·) s1 ka) (by simp [hs1, hka]))
  obtain ⟨s_eh, s_et⟩ := slice_halves eh et heh
  have x2 : xorBytes (et ++ s2) (kb1 ++ kb2) =
      .ok (List.zipWith (· ^^^ ·) et kb1 ++ List.zipWith (· ^^^ ·) s2 kb2) := by
    rw [xorBytes_ok _ _ (by simp [het, hs2, hkb1, hkb2]), List.zipWith_append (by rw [het, hkb1])]
  obtain ⟨e2, he2⟩ : ∃ e2, P.aesEnc dk2
      (List.zipWith (· ^^^ ·) et kb1 ++ List.zipWith (· ^^^ ·) s2 kb2) = e2 := ⟨_, rfl⟩
  have he2l : e2.length = 16 := by
    rw [← he2]; exact g.aes_len _ _ (by simp [het, hs2, hkb1, hkb2])
  obtain ⟨d, hd⟩ : ∃ d, d = [0x01, 0x43, encodeFlagByte c true useLot] ++ ah ++ oe ++ eh ++ e2 := ⟨_, rfl⟩
  obtain ⟨hl, h0, h1, h2, l37, l715, l1523, _, l23⟩ := payload_fields hd hahl hoe heh he2l
  have henc : encryptIntermediateCode P (s1 ++ s2) (Base58Check.encode P.cksum (magic ++ oe ++ pp)) c =
      .ok (Base58Check.encode P.cksum d) := by
    unfold encryptIntermediateCode
    rw [Base58.Check.decode_encode P.cksum g.ck_len]
    have hg : bip38_EncryptIntermediateCode_0 (len_intermediateCode := (magic ++ oe ++ pp).length) = false := by
      rw [hicl]; rfl
    have hrl : ¬ (s1 ++ s2).length < 24 := by omega
    have htk : (s1 ++ s2).take 24 = s1 ++ s2 := List.take_of_length_le (Nat.le_of_eq hsl)
    dsimp only
    rw [hg, if_neg Bool.false_ne_true, bind_of_ok i_magic, bind_of_ok huse, bind_of_ok i_oe, bind_of_ok i_pp,
      if_neg hrl, htk, bind_of_ok hpub, bind_of_ok haddr, bind_of_ok s_ah, bind_of_ok s_dk1, bind_of_ok s_dk2,
      bind_of_ok s_s1, bind_of_ok s_s2, bind_of_ok s_ka, bind_of_ok s_kb, bind_of_ok x1, he1, bind_of_ok s_et,
      bind_of_ok s_eh, bind_of_ok x2, he2, hd]
    rfl
  refine ⟨_, henc, ?_⟩
  have hkey : ecKey P d pw useLot = .ok (P.mulModN (P.dsha256 (s1 ++ s2)) pf) := by
    -- the second block decrypts to (et ‖ s2) xor (kb1 ‖ kb2), which gives `et` and `s2`; then the
    -- first block `eh ‖ et` decrypts to s1 xor ka
    have hz1 : (List.zipWith (· ^^^ ·) et kb1).length = 8 := by simp [het, hkb1]
    obtain ⟨s_a, s_b⟩ := slice_halves _ (List.zipWith (· ^^^ ·) s2 kb2) hz1
    have y1 : xorBytes (List.zipWith (· ^^^ ·) et kb1) kb1 = .ok et := by
      rw [xorBytes_ok _ _ (by rw [hz1, hkb1]), xor_cancel _ _ (by rw [het, hkb1])]
    have y2 : xorBytes (List.zipWith (· ^^^ ·) s2 kb2) kb2 = .ok s2 := by
      rw [xorBytes_ok _ _ (by simp [hs2, hkb2]), xor_cancel _ _ (by rw [hs2, hkb2])]
    have y3 : xorBytes (P.aesDec dk2 (eh ++ et)) ka = .ok s1 := by
      rw [← he1]; exact xor_aes g dk2 s1 ka (by rw [hs1, hka])
    have t1 : et.take 8 = et := List.take_of_length_le (Nat.le_of_eq het)
    have t2 : s1.take 16 = s1 := List.take_of_length_le (Nat.le_of_eq hs1)
    have t3 : s2.take 8 = s2 := List.take_of_length_le (Nat.le_of_eq hs2)
    have d2 : P.aesDec dk2 e2 = List.zipWith (· ^^^ ·) et kb1 ++ List.zipWith (· ^^^ ·) s2 kb2 := by
      rw [← he2, g.aes_inv]
    unfold ecKey
    rw [bind_of_ok l37, bind_of_ok l715, bind_of_ok hpf, bind_of_ok hpp, bind_of_ok s_dk1, bind_of_ok s_dk2,
      bind_of_ok l1523, bind_of_ok l23, d2, bind_of_ok s_a, bind_of_ok s_b, bind_of_ok s_kb1, bind_of_ok s_kb2,
      bind_of_ok y1, bind_of_ok y2, bind_of_ok s_ka, t1, bind_of_ok y3, t2, t3]
    rfl
  obtain ⟨hf1, hf2, hf3⟩ := flag_ec c useLot
  rw [decrypt_encode g d pw hl h0, h1, if_pos rfl,
    (decryptEC_eq_ok P d pw _ c).mpr ⟨_, h2, hf1, by rw [hf3]; exact hkey, hf2⟩]
  exact checkAddress_of_hash P d _ addr ah (by unfold deriveAddress; rw [hcomm]; exact haddr) l37 s_ah

/-- what `GenerateIntermediateCode` returns (reader bytes = the owner entropy) -/
theorem intermediateCode_eq (P : Prims) (oe pw pp : Bytes) (hoe : oe.length = 8)
    (hpp : P.baseMul (P.scrypt pw oe 16384 8 8 32) = .ok pp) :
    intermediateCode P oe pw = .ok (Base58Check.encode P.cksum (magicPlain ++ oe ++ pp)) ∧
    passFactorOf P false pw oe = .ok (P.scrypt pw oe 16384 8 8 32) := by
  constructor
  · unfold intermediateCode
    have : ¬ oe.length < 8 := by omega
    have ht : oe.take 8 = oe := List.take_of_length_le (by omega)
    simp only [this, if_false, ht, hpp, Outcome.bind_ok, Outcome.pure_eq]
  · simp [passFactorOf, bip38_decryptECMult_1]

/-- what `GenerateIntermediateCodeWithLotSequence` returns (reader bytes = the owner salt) -/
theorem intermediateCodeLot_eq (P : Prims) (salt pw pp : Bytes) (lot sequence : Nat) (hs : salt.length = 4)
    (hlot : lot ≤ 0xfffff) (hseq : sequence ≤ 0xfff)
    (hpp : P.baseMul (P.dsha256 (P.scrypt pw salt 16384 8 8 32 ++
      (salt ++ beBytes 4 ((lot <<< 12 + sequence) % 4294967296)))) = .ok pp) :
    let oe := salt ++ beBytes 4 ((lot <<< 12 + sequence) % 4294967296)
    intermediateCodeLot P salt pw lot sequence = .ok (Base58Check.encode P.cksum (magicLot ++ oe ++ pp)) ∧
    oe.length = 8 ∧
    passFactorOf P true pw oe = .ok (P.dsha256 (P.scrypt pw salt 16384 8 8 32 ++ oe)) := by
  intro oe
  have hg0 : bip38_encodeLotSequence_0 (lot := lot) = false := by
    simp only [bip38_encodeLotSequence_0, decide_eq_false_iff_not]; omega
  have hg1 : bip38_encodeLotSequence_1 (sequence := sequence) = false := by
    simp only [bip38_encodeLotSequence_1, decide_eq_false_iff_not]; omega
  have hoel : oe.length = 8 := by simp [oe, hs]
  refine ⟨?_, hoel, ?_⟩
  · unfold intermediateCodeLot encodeLotSequence
    have : ¬ salt.length < 4 := by omega
    have ht : salt.take 4 = salt := List.take_of_length_le (by omega)
    simp only [hg0, hg1, Bool.false_eq_true, if_false, Outcome.bind_ok, this, ht, hpp, Outcome.pure_eq]
    rfl
  · unfold passFactorOf
    have hsl : slice oe 0 4 = .ok salt := (slice_halves salt _ hs).1
    simp only [bip38_decryptECMult_1, if_true, hsl, Outcome.bind_ok, Outcome.pure_eq]

end BtcVerif.Proofs.Bip38
