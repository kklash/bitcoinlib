/-
  Lemmas about the model of /repo/ecc that need only the field-level hypotheses `FieldHyp`, or none
  at all: `lift_x`, point decoding = the standard parser (`ofOption` turns the parser's `Option` into
  the decoder's `Outcome`), soundness, never-infinity, round trips, compress/uncompress, private-key
  sums, NewPrivateKey range, and the signers' and verifiers' guards evaluated (`verifyECDSA_eq`,
  `signECDSA_eq`, `verifySchnorr_reject`). What needs the group (ECDH, verification = reference,
  sign-then-verify) is in `Proofs/ECCGroup.lean`.
-/
import BtcVerif.Proofs.CurveAbs

namespace BtcVerif.Proofs.ECC
open BtcVerif BtcVerif.Model.ECC BtcVerif.Gen.Guards BtcVerif.Proofs
open BtcVerif.Spec.ECC (liftX validPoint parsePoint encodeCompressed encodeUncompressed encodeXOnly IsStandardEncoding)

variable {C : CurveOps}

theorem validPoint_neg {P : Pt} (h : validPoint C P = true) (h0 : P.2 ≠ 0) :
    validPoint C (P.1, C.p - P.2) = true := by
  rw [validPoint_iff] at h ⊢
  obtain ⟨hx, hy, he⟩ := h
  exact ⟨hx, Nat.sub_lt (by omega) (by omega), (neg_sq_mod _ _ hy.le).trans he⟩

theorem liftX_eq_some_iff (H : FieldHyp C) {x : Nat} {P : Pt} :
    liftX C x = some P ↔ P.1 = x ∧ validPoint C P = true ∧ P.2 % 2 = 0 := by
  unfold liftX
  dsimp only
  constructor
  · intro h
    by_cases hxp : x ≥ C.p
    · rw [if_pos hxp] at h; cases h
    by_cases hr : C.sqrtExp ((x * x * x + 7) % C.p) * C.sqrtExp ((x * x * x + 7) % C.p) % C.p ≠
        (x * x * x + 7) % C.p
    · rw [if_neg hxp, if_pos hr] at h; cases h
    rw [if_neg hxp, if_neg hr] at h
    have hlt := H.sqrtExp_lt ((x * x * x + 7) % C.p)
    -- of the two roots `r`, `p − r` the even one is returned
    by_cases he : C.sqrtExp ((x * x * x + 7) % C.p) % 2 = 0
    · rw [if_pos he] at h
      cases h
      exact ⟨rfl, (validPoint_iff _).mpr ⟨Nat.not_le.mp hxp, hlt, not_not.mp hr⟩, he⟩
    · rw [if_neg he] at h
      cases h
      have h0 : C.sqrtExp ((x * x * x + 7) % C.p) ≠ 0 := fun h0 => he (by rw [h0])
      exact ⟨rfl, (validPoint_iff _).mpr ⟨Nat.not_le.mp hxp, Nat.sub_lt H.p_pos (Nat.pos_of_ne_zero h0),
        (neg_sq_mod _ _ hlt.le).trans (not_not.mp hr)⟩, (H.sub_even hlt.le).mpr (Nat.mod_two_ne_zero.mp he)⟩
  · rintro ⟨rfl, hv, he⟩
    obtain ⟨hx, hy, hc⟩ := (validPoint_iff P).mp hv
    -- `sqrtExp` returns a root, which is `±P.2`; parity decides which
    have hs := H.sqrt_complete _ P.2 hy hc
    rw [if_neg (Nat.not_le.mpr hx), if_neg (not_not.mpr hs)]
    refine congrArg some (Prod.ext rfl ?_)
    rcases H.sqrt_unique _ P.2 (H.sqrtExp_lt _) hy (hs.trans hc.symm) with e | e
    · rw [← e, if_pos he]
    · have hr : C.sqrtExp ((P.1 * P.1 * P.1 + 7) % C.p) = C.p - P.2 := Nat.eq_sub_of_add_eq' e
      rw [hr, if_neg (Nat.mod_two_ne_zero.mpr ((H.sub_odd hy.le).mpr he))]
      exact Nat.sub_sub_self hy.le

theorem liftX_neg_eq_some_iff (H : FieldHyp C) {x : Nat} {P : Pt} :
    (liftX C x).map (fun Q => (Q.1, C.p - Q.2)) = some P ↔ P.1 = x ∧ validPoint C P = true ∧ P.2 % 2 = 1 := by
  rw [Option.map_eq_some_iff]
  constructor
  · rintro ⟨Q, hQ, rfl⟩
    obtain ⟨hx, hv, he⟩ := (liftX_eq_some_iff H).mp hQ
    exact ⟨hx, validPoint_neg hv (validPoint_ne_zero H hv).2,
      (H.sub_odd ((validPoint_iff Q).mp hv).2.1.le).mpr he⟩
  · rintro ⟨rfl, hv, ho⟩
    have hy := ((validPoint_iff P).mp hv).2.1.le
    exact ⟨(P.1, C.p - P.2),
      (liftX_eq_some_iff H).mpr ⟨rfl, validPoint_neg hv (validPoint_ne_zero H hv).2, (H.sub_even hy).mpr ho⟩,
      Prod.ext rfl (Nat.sub_sub_self hy)⟩

/-- the Go root function is `lift_x` with the mirrored root beside it: its zero tests (the D8 repair) can
    fire only at `x = 0`, where `lift_x` fails too (7 is no square), or at `y = 0`, which `no_y_zero`
    excludes -/
theorem curveYValues_eq_liftX (H : FieldHyp C) (x : Nat) :
    curveYValues C x = (Spec.ECC.liftX C x).map (fun P => (P.2, C.p - P.2)) := by
  unfold curveYValues weierstrass Spec.ECC.liftX
  have hp := H.p_gt
  by_cases hx0 : x = 0
  · subst hx0
    have h7 := H.no_x_zero _ (H.sqrtExp_lt 7)
    simp [ecc_curveYValues_0, H.seven_mod, h7]
  · by_cases hxp : x ≥ C.p
    · simp [hx0, hxp]
    · have hc := H.no_y_zero x (by omega)
      have hlt := H.sqrtExp_lt ((x * x * x + 7) % C.p)
      simp only [hx0, hxp, if_false]
      by_cases hr : C.sqrtExp ((x * x * x + 7) % C.p) * C.sqrtExp ((x * x * x + 7) % C.p) % C.p = (x * x * x + 7) % C.p
      · have hy0 : C.sqrtExp ((x * x * x + 7) % C.p) ≠ 0 := by
          intro h0; rw [h0] at hr; simp at hr; exact hc hr.symm
        by_cases he : C.sqrtExp ((x * x * x + 7) % C.p) % 2 = 0
        · simp [hr, he, negateY, hy0, ecc_curveYValues_0]
          omega
        · simp [hr, he, negateY, hy0, ecc_curveYValues_0]
          omega
      · simp [hr]

def ofOption {α} : Option α → Outcome α
  | some a => .ok a
  | none => .err

@[simp] theorem ofOption_some {α} (a : α) : ofOption (some a) = .ok a := rfl
@[simp] theorem ofOption_none {α} : (ofOption (none : Option α)) = .err := rfl

theorem ofOption_eq_ok {α} {o : Option α} {a : α} : ofOption o = .ok a ↔ o = some a := by
  cases o with
  | none => exact ⟨nofun, nofun⟩
  | some b => exact ⟨fun h => by cases h; rfl, fun h => by cases h; rfl⟩

theorem ofOption_ne_panic {α} (o : Option α) : ofOption o ≠ .panic := by
  cases o <;> nofun

/-- `DeserializePoint` with its guards evaluated, over any root function `ys` (the model's is
    `curveYValues C`): which bytes are read, which root is taken -/
def parseVia (ys : Nat → Option (Nat × Nat)) (bs : Bytes) : Option Pt :=
  if bs.length = 33 then
    match bs with
    | pre :: rest =>
      (ys (beNat rest)).bind fun r =>
        if pre = 2 then some (beNat rest, r.1) else if pre = 3 then some (beNat rest, r.2) else none
    | [] => none
  else if bs.length = 65 then
    match bs with
    | pre :: rest =>
      if pre = 4 then
        (ys (beNat (rest.take 32))).bind fun r =>
          if r.1 = beNat (rest.drop 32) ∨ r.2 = beNat (rest.drop 32)
          then some (beNat (rest.take 32), beNat (rest.drop 32)) else none
      else none
    | [] => none
  else if bs.length = 32 then (ys (beNat bs)).map fun r => (beNat bs, r.1)
  else none

/-- per arm: rewrite the length guard, destruct the list, evaluate the prefix guard, case on the root -/
theorem deserializePoint_eq (bs : Bytes) : deserializePoint C bs = ofOption (parseVia (curveYValues C) bs) := by
  have g0 : ecc_DeserializePoint_0 bs.length = decide (bs.length = 65) := lenTest _ 65
  have g1 : ecc_DeserializePoint_1 bs.length = decide (bs.length = 33) := lenTest _ 33
  have g2 : ecc_DeserializePoint_2 bs.length = decide (bs.length = 32) := lenTest _ 32
  unfold deserializePoint parseVia
  simp only [g0, g1, g2, decide_eq_true_eq]
  by_cases h33 : bs.length = 33
  · rw [if_neg (by omega), if_pos h33, if_pos h33]
    cases bs with
    | nil => cases h33
    | cons pre rest =>
      have e2 : (pre.toNat = 2) = (pre = 2) := propext (UInt8.toNat_inj (b := 2))
      have e3 : (pre.toNat = 3) = (pre = 3) := propext (UInt8.toNat_inj (b := 3))
      dsimp only
      cases curveYValues C (beNat rest) with
      | none => rfl
      | some r =>
        simp only [ecc_DeserializePoint_5, ecc_DeserializePoint_6, ecc_DeserializePoint_7, Bool.or_self,
          Bool.false_eq_true, if_false, decide_eq_true_eq, e2, e3, Option.bind_some]
        split_ifs <;> rfl
  by_cases h65 : bs.length = 65
  · rw [if_pos h65, if_neg h33, if_pos h65]
    cases bs with
    | nil => cases h65
    | cons pre rest =>
      have e4 : (pre.toNat = 4) = (pre = 4) := propext (UInt8.toNat_inj (b := 4))
      dsimp only
      simp only [ecc_DeserializePoint_3, ecc_DeserializePoint_4, decide_eq_true_eq, ne_eq, e4, ite_not]
      by_cases h4 : pre = 4
      · rw [if_pos h4, if_pos h4]
        cases curveYValues C (beNat (rest.take 32)) with
        | none => rfl
        | some r =>
          simp only [Option.isNone_some, Option.any_some, Bool.or_self, Bool.false_or, Option.bind_some,
            Bool.not_eq_true', Bool.or_eq_false_iff, beq_eq_false_iff_ne, ne_eq, ← not_or, ite_not]
          split_ifs <;> rfl
      · rw [if_neg h4, if_neg h4]; rfl
  by_cases h32 : bs.length = 32
  · rw [if_neg h65, if_neg h33, if_pos h32, if_neg h33, if_neg h65, if_pos h32]
    cases curveYValues C (beNat bs) <;> rfl
  · rw [if_neg h65, if_neg h33, if_neg h32, if_neg h33, if_neg h65, if_neg h32]; rfl

theorem parseVia_some {ys : Nat → Option (Nat × Nat)} {bs : Bytes} {P : Pt} (h : parseVia ys bs = some P) :
    ∃ ey oy, ys P.1 = some (ey, oy) ∧ (P.2 = ey ∨ P.2 = oy) := by
  unfold parseVia at h
  by_cases h33 : bs.length = 33
  · rw [if_pos h33] at h
    cases bs with
    | nil => cases h
    | cons pre rest =>
      obtain ⟨r, hc, h⟩ := Option.bind_eq_some_iff.mp h
      by_cases h2 : pre = 2
      · rw [if_pos h2] at h; cases h; exact ⟨r.1, r.2, hc, Or.inl rfl⟩
      by_cases h3 : pre = 3
      · rw [if_neg h2, if_pos h3] at h; cases h; exact ⟨r.1, r.2, hc, Or.inr rfl⟩
      · rw [if_neg h2, if_neg h3] at h; cases h
  by_cases h65 : bs.length = 65
  · rw [if_neg h33, if_pos h65] at h
    cases bs with
    | nil => cases h
    | cons pre rest =>
      dsimp only at h
      by_cases h4 : pre = 4
      · rw [if_pos h4] at h
        obtain ⟨r, hc, h⟩ := Option.bind_eq_some_iff.mp h
        by_cases hy : r.1 = beNat (rest.drop 32) ∨ r.2 = beNat (rest.drop 32)
        · rw [if_pos hy] at h; cases h; exact ⟨r.1, r.2, hc, hy.imp Eq.symm Eq.symm⟩
        · rw [if_neg hy] at h; cases h
      · rw [if_neg h4] at h; cases h
  by_cases h32 : bs.length = 32
  · rw [if_neg h33, if_neg h65, if_pos h32] at h
    obtain ⟨r, hc, h⟩ := Option.map_eq_some_iff.mp h
    cases h
    exact ⟨r.1, r.2, hc, Or.inl rfl⟩
  · rw [if_neg h33, if_neg h65, if_neg h32] at h; cases h

theorem deserializePoint_ne_panic (bs : Bytes) : deserializePoint C bs ≠ .panic := by
  rw [deserializePoint_eq]; exact ofOption_ne_panic _

theorem curveYValues_ne_zero {x ey oy : Nat} (h : curveYValues C x = some (ey, oy)) :
    x ≠ 0 ∧ ey ≠ 0 ∧ oy ≠ 0 := by
  unfold curveYValues at h
  cases hw : weierstrass C x with
  | none => simp [hw] at h
  | some r =>
    obtain ⟨a, b⟩ := r
    simp only [hw, ecc_curveYValues_0] at h
    by_cases ha : a = 0
    · simp [ha] at h
    · by_cases hb : b = 0
      · simp [hb] at h
      · simp [ha, hb] at h
        obtain ⟨rfl, rfl⟩ := h
        refine ⟨?_, ha, hb⟩
        intro h0; subst h0
        simp [weierstrass] at hw
        exact ha hw.1.symm

/-- whatever the curve operations are, a decoded point has no zero coordinate; in particular it is
    never ekliptic's point at infinity `(0,0)` -/
theorem deserialize_never_infinity {bs : Bytes} {P : Pt} (h : deserializePoint C bs = .ok P) :
    P.1 ≠ 0 ∧ P.2 ≠ 0 := by
  rw [deserializePoint_eq, ofOption_eq_ok] at h
  obtain ⟨ey, oy, hc, hy⟩ := parseVia_some h
  obtain ⟨hx, he, ho⟩ := curveYValues_ne_zero hc
  exact ⟨hx, hy.elim (fun e => e ▸ he) (fun e => e ▸ ho)⟩

/-- the uncompressed arm: `y` is one of the two roots over `x` exactly when `(x, y)` is on the curve -/
theorem liftX_roots (H : FieldHyp C) (x y : Nat) :
    ((liftX C x).map fun Q => (Q.2, C.p - Q.2)).bind (fun r => if r.1 = y ∨ r.2 = y then some (x, y) else none) =
      if validPoint C (x, y) = true then some (x, y) else none := by
  by_cases hv : validPoint C (x, y) = true
  · rw [if_pos hv]
    by_cases he : y % 2 = 0
    · rw [(liftX_eq_some_iff H).mpr ⟨rfl, hv, he⟩]
      exact if_pos (Or.inl rfl)
    · obtain ⟨Q, hQ, e⟩ := Option.map_eq_some_iff.mp
        ((liftX_neg_eq_some_iff H).mpr ⟨rfl, hv, Nat.mod_two_ne_zero.mp he⟩)
      rw [hQ]
      exact if_pos (Or.inr (congrArg Prod.snd e))
  · rw [if_neg hv]
    cases hl : liftX C x with
    | none => rfl
    | some Q =>
      obtain ⟨rfl, hvQ, _⟩ := (liftX_eq_some_iff H).mp hl
      refine if_neg fun h => hv ?_
      rcases h with h | h
      · exact (show (Q.1, y) = Q from Prod.ext rfl h.symm) ▸ hvQ
      · exact (show (Q.1, y) = (Q.1, C.p - Q.2) from Prod.ext rfl h.symm) ▸
          validPoint_neg hvQ (validPoint_ne_zero H hvQ).2

/-- once the root function is `liftX` (`curveYValues_eq_liftX`), both sides are the same case split on the
    length; only the 65-byte arm differs in shape, and that is `liftX_roots` -/
theorem deserializePoint_eq_spec (H : FieldHyp C) (bs : Bytes) :
    deserializePoint C bs = ofOption (parsePoint C bs) := by
  rw [deserializePoint_eq]
  congr 1
  unfold parseVia parsePoint
  simp only [curveYValues_eq_liftX H]
  by_cases h33 : bs.length = 33
  · rw [if_pos h33, if_pos h33]
    cases bs with
    | nil => rfl
    | cons pre rest =>
      dsimp only
      cases hl : liftX C (beNat rest) with
      | none => simp only [Option.map_none, Option.bind_none, ite_self]
      | some Q =>
        rw [← ((liftX_eq_some_iff H).mp hl).1]
        rfl
  by_cases h65 : bs.length = 65
  · rw [if_neg h33, if_pos h65, if_neg h33, if_pos h65]
    cases bs with
    | nil => rfl
    | cons pre rest =>
      dsimp only
      rw [liftX_roots H]
  by_cases h32 : bs.length = 32
  · rw [if_neg h33, if_neg h65, if_pos h32, if_neg h33, if_neg h65, if_pos h32]
    cases hl : liftX C (beNat bs) with
    | none => rfl
    | some Q =>
      rw [← ((liftX_eq_some_iff H).mp hl).1]
      rfl
  · rw [if_neg h33, if_neg h65, if_neg h32, if_neg h33, if_neg h65, if_neg h32]

theorem beBytes32_beNat {bs : Bytes} (h : bs.length = 32) : beBytes 32 (beNat bs) = bs := by
  rw [← h]; exact beBytes_beNat bs

theorem encodeCompressed_length (P : Pt) : (encodeCompressed P).length = 33 := by simp [encodeCompressed]
theorem encodeUncompressed_length (P : Pt) : (encodeUncompressed P).length = 65 := by simp [encodeUncompressed]
theorem encodeXOnly_length (P : Pt) : (encodeXOnly P).length = 32 := by simp [encodeXOnly]

/-- per arm of `parsePoint`: `liftX_eq_some_iff` / `liftX_neg_eq_some_iff` give the point's `x` and parity, and
    `beBytes32_beNat` turns the coordinates read back into the bytes they were read from -/
theorem standard_of_parsePoint (H : FieldHyp C) {bs : Bytes} {P : Pt} (h : parsePoint C bs = some P) :
    IsStandardEncoding C bs P := by
  unfold parsePoint at h
  by_cases h33 : bs.length = 33
  · rw [if_pos h33] at h
    cases bs with
    | nil => cases h
    | cons pre rest =>
      have hr : beBytes 32 (beNat rest) = rest := beBytes32_beNat (Nat.succ.inj h33)
      dsimp only at h
      by_cases h2 : pre = 2
      · rw [if_pos h2] at h
        obtain ⟨hx, hv, he⟩ := (liftX_eq_some_iff H).mp h
        refine ⟨hv, Or.inl ?_⟩
        rw [encodeCompressed, if_pos he, hx, hr, h2]
      by_cases h3 : pre = 3
      · rw [if_neg h2, if_pos h3] at h
        obtain ⟨hx, hv, ho⟩ := (liftX_neg_eq_some_iff H).mp h
        refine ⟨hv, Or.inl ?_⟩
        rw [encodeCompressed, if_neg (by omega), hx, hr, h3]
      · rw [if_neg h2, if_neg h3] at h; cases h
  by_cases h65 : bs.length = 65
  · rw [if_neg h33, if_pos h65] at h
    cases bs with
    | nil => cases h
    | cons pre rest =>
      have hl : rest.length = 64 := Nat.succ.inj h65
      dsimp only at h
      by_cases h4 : pre = 4
      · by_cases hv : validPoint C (beNat (rest.take 32), beNat (rest.drop 32)) = true
        · rw [if_pos h4, if_pos hv] at h
          cases h
          refine ⟨hv, Or.inr (Or.inl ?_)⟩
          rw [encodeUncompressed, beBytes32_beNat (by rw [List.length_take]; omega),
            beBytes32_beNat (by rw [List.length_drop]; omega), List.take_append_drop, h4]
        · rw [if_pos h4, if_neg hv] at h; cases h
      · rw [if_neg h4] at h; cases h
  by_cases h32 : bs.length = 32
  · rw [if_neg h33, if_neg h65, if_pos h32] at h
    obtain ⟨hx, hv, he⟩ := (liftX_eq_some_iff H).mp h
    refine ⟨hv, Or.inr (Or.inr ⟨?_, he⟩)⟩
    rw [encodeXOnly, hx, beBytes32_beNat h32]
  · rw [if_neg h33, if_neg h65, if_neg h32] at h; cases h

theorem parsePoint_of_standard (H : FieldHyp C) {bs : Bytes} {P : Pt} (h : IsStandardEncoding C bs P) :
    parsePoint C bs = some P := by
  obtain ⟨hv, henc⟩ := h
  obtain ⟨hx, hy, _⟩ := (validPoint_iff P).mp hv
  have bx := beNat_beBytes 32 _ (Nat.lt_trans hx H.p_lt)
  have by' := beNat_beBytes 32 _ (Nat.lt_trans hy H.p_lt)
  unfold parsePoint
  rcases henc with rfl | rfl | ⟨rfl, he⟩
  · rw [if_pos (encodeCompressed_length P)]
    unfold encodeCompressed
    dsimp only
    rw [bx]
    by_cases he : P.2 % 2 = 0
    · rw [if_pos he, if_pos rfl]
      exact (liftX_eq_some_iff H).mpr ⟨rfl, hv, he⟩
    · rw [if_neg he, if_neg (by decide), if_pos rfl]
      exact (liftX_neg_eq_some_iff H).mpr ⟨rfl, hv, Nat.mod_two_ne_zero.mp he⟩
  · rw [if_neg (by rw [encodeUncompressed_length]; omega), if_pos (encodeUncompressed_length P)]
    unfold encodeUncompressed
    dsimp only
    rw [if_pos rfl, List.take_left' (beBytes_length _ _), List.drop_left' (beBytes_length _ _), bx, by', if_pos hv]
  · rw [if_neg (by rw [encodeXOnly_length]; omega), if_neg (by rw [encodeXOnly_length]; omega),
      if_pos (encodeXOnly_length P)]
    unfold encodeXOnly
    rw [bx]
    exact (liftX_eq_some_iff H).mpr ⟨rfl, hv, he⟩

theorem deserializePoint_ok_iff (H : FieldHyp C) (bs : Bytes) (P : Pt) :
    deserializePoint C bs = .ok P ↔ IsStandardEncoding C bs P := by
  rw [deserializePoint_eq_spec H, ofOption_eq_ok]
  exact ⟨standard_of_parsePoint H, parsePoint_of_standard H⟩

theorem deserialize_sound (H : FieldHyp C) {bs : Bytes} {P : Pt} (h : deserializePoint C bs = .ok P) :
    validPoint C P = true ∧ P.1 ≠ 0 ∧ P.2 ≠ 0 := by
  have hs := (deserializePoint_ok_iff H bs P).mp h
  exact ⟨hs.1, validPoint_ne_zero H hs.1⟩

theorem fillBytes32_lt {v : Nat} (h : v < 2 ^ 256) : fillBytes32 v = .ok (beBytes 32 v) := by
  unfold fillBytes32; rw [if_pos h]

theorem fillBytes32_eq_ok {v : Nat} {b : Bytes} : fillBytes32 v = .ok b ↔ v < 2 ^ 256 ∧ b = beBytes 32 v := by
  unfold fillBytes32
  split
  · rename_i h; rw [Outcome.ok.injEq, eq_comm]; exact (and_iff_right h).symm
  · rename_i h; exact ⟨nofun, fun e => absurd e.1 h⟩

theorem marshalGuard_valid (H : FieldHyp C) {P : Pt} (h : validPoint C P = true) : marshalGuard C P = true := by
  have h0 := validPoint_ne_zero H h
  have he := ((validPoint_iff P).mp h).2.2
  simp [marshalGuard, curveIsOnCurve, isOnCurveAffine, h0.1, he]

theorem serializeCompressed_valid (H : FieldHyp C) {P : Pt} (h : validPoint C P = true) :
    serializeCompressed C P = .ok (encodeCompressed P) := by
  have hx := ((validPoint_iff P).mp h).1
  have := H.p_lt
  unfold serializeCompressed
  rw [marshalGuard_valid H h, fillBytes32_lt (by omega)]
  simp [encodeCompressed]

theorem serializeUncompressed_valid (H : FieldHyp C) {P : Pt} (h : validPoint C P = true) :
    serializeUncompressed C P = .ok (encodeUncompressed P) := by
  have hx := (validPoint_iff P).mp h
  have := H.p_lt
  unfold serializeUncompressed
  rw [marshalGuard_valid H h, fillBytes32_lt (by omega), fillBytes32_lt (by omega)]
  simp [encodeUncompressed]

theorem serializeCompressed_length {P : Pt} {bs : Bytes} (h : serializeCompressed C P = .ok bs) :
    bs.length = 33 := by
  unfold serializeCompressed at h
  split at h
  · cases h
  · obtain ⟨xb, hx, h⟩ := Outcome.bind_eq_ok.mp h
    cases h
    rw [(fillBytes32_eq_ok.mp hx).2, List.length_cons, beBytes_length]

theorem serializeUncompressed_length {P : Pt} {bs : Bytes} (h : serializeUncompressed C P = .ok bs) :
    bs.length = 65 := by
  unfold serializeUncompressed at h
  split at h
  · cases h
  · obtain ⟨xb, hx, h⟩ := Outcome.bind_eq_ok.mp h
    obtain ⟨yb, hy, h⟩ := Outcome.bind_eq_ok.mp h
    cases h
    rw [(fillBytes32_eq_ok.mp hx).2, (fillBytes32_eq_ok.mp hy).2, List.length_cons,
      List.length_append, beBytes_length, beBytes_length]

theorem getPublicKeyCompressed_length {priv pub : Bytes} (h : getPublicKeyCompressed C priv = .ok pub) :
    pub.length = 33 := by
  obtain ⟨P, _, h⟩ := Outcome.bind_eq_ok.mp h
  exact serializeCompressed_length h

theorem getPublicKey_length {priv pub : Bytes} {c : Bool} (h : getPublicKey C priv c = .ok pub) :
    pub.length ≤ 65 := by
  unfold getPublicKey at h
  split at h
  · rw [getPublicKeyCompressed_length h]; omega
  · obtain ⟨P, _, h⟩ := Outcome.bind_eq_ok.mp h
    exact Nat.le_of_eq (serializeUncompressed_length h)

theorem deserialize_encodeCompressed (H : FieldHyp C) {P : Pt} (h : validPoint C P = true) :
    deserializePoint C (encodeCompressed P) = .ok P :=
  (deserializePoint_ok_iff H _ P).mpr ⟨h, Or.inl rfl⟩

theorem deserialize_encodeUncompressed (H : FieldHyp C) {P : Pt} (h : validPoint C P = true) :
    deserializePoint C (encodeUncompressed P) = .ok P :=
  (deserializePoint_ok_iff H _ P).mpr ⟨h, Or.inr (Or.inl rfl)⟩

theorem deserialize_encodeXOnly (H : FieldHyp C) {P : Pt} (h : validPoint C P = true) (he : P.2 % 2 = 0) :
    deserializePoint C (encodeXOnly P) = .ok P :=
  (deserializePoint_ok_iff H _ P).mpr ⟨h, Or.inr (Or.inr ⟨rfl, he⟩)⟩

theorem serialize_deserialize (H : FieldHyp C) {P : Pt} (h : validPoint C P = true) :
    (serializeCompressed C P >>= deserializePoint C) = .ok P ∧
    (serializeUncompressed C P >>= deserializePoint C) = .ok P ∧
    (P.2 % 2 = 0 → (fillBytes32 P.1 >>= deserializePoint C) = .ok P) := by
  refine ⟨?_, ?_, fun he => ?_⟩
  · rw [serializeCompressed_valid H h, Outcome.bind_ok, deserialize_encodeCompressed H h]
  · rw [serializeUncompressed_valid H h, Outcome.bind_ok, deserialize_encodeUncompressed H h]
  · rw [fillBytes32_lt (Nat.lt_trans ((validPoint_iff P).mp h).1 H.p_lt), Outcome.bind_ok]
    exact deserialize_encodeXOnly H h he

theorem compressPublicKey_eq_ok (H : FieldHyp C) {pub c : Bytes} :
    compressPublicKey C pub = .ok c ↔ ∃ P, deserializePoint C pub = .ok P ∧ c = encodeCompressed P := by
  unfold compressPublicKey
  rw [Outcome.bind_eq_ok]
  refine exists_congr fun P => and_congr_right fun hd => ?_
  rw [serializeCompressed_valid H (deserialize_sound H hd).1, Outcome.ok.injEq, eq_comm]

theorem uncompressPublicKey_eq_ok (H : FieldHyp C) {pub u : Bytes} :
    uncompressPublicKey C pub = .ok u ↔ ∃ P, deserializePoint C pub = .ok P ∧ u = encodeUncompressed P := by
  unfold uncompressPublicKey
  rw [Outcome.bind_eq_ok]
  refine exists_congr fun P => and_congr_right fun hd => ?_
  rw [serializeUncompressed_valid H (deserialize_sound H hd).1, Outcome.ok.injEq, eq_comm]

theorem recode_encoded (H : FieldHyp C) {P : Pt} (hv : validPoint C P = true) :
    compressPublicKey C (encodeCompressed P) = .ok (encodeCompressed P) ∧
    compressPublicKey C (encodeUncompressed P) = .ok (encodeCompressed P) ∧
    uncompressPublicKey C (encodeCompressed P) = .ok (encodeUncompressed P) ∧
    uncompressPublicKey C (encodeUncompressed P) = .ok (encodeUncompressed P) :=
  ⟨(compressPublicKey_eq_ok H).mpr ⟨P, deserialize_encodeCompressed H hv, rfl⟩,
   (compressPublicKey_eq_ok H).mpr ⟨P, deserialize_encodeUncompressed H hv, rfl⟩,
   (uncompressPublicKey_eq_ok H).mpr ⟨P, deserialize_encodeCompressed H hv, rfl⟩,
   (uncompressPublicKey_eq_ok H).mpr ⟨P, deserialize_encodeUncompressed H hv, rfl⟩⟩

/-- `CompressPublicKey ∘ UncompressPublicKey` is the identity on compressed keys, and `CompressPublicKey`
    is idempotent (the mirror statement is `C06.uncompress_compress_inverse`) -/
theorem compress_uncompress_inverse (H : FieldHyp C) {pub c : Bytes} (h : compressPublicKey C pub = .ok c) :
    ∃ u, uncompressPublicKey C c = .ok u ∧ compressPublicKey C u = .ok c ∧ compressPublicKey C c = .ok c := by
  obtain ⟨P, hd, rfl⟩ := (compressPublicKey_eq_ok H).mp h
  obtain ⟨cc, cu, uc, _⟩ := recode_encoded H (deserialize_sound H hd).1
  exact ⟨_, uc, cu, cc⟩

theorem sumPrivLoop_eq (ks : List Bytes) (acc : Nat) :
    sumPrivLoop C ks acc =
      if ∀ k ∈ ks, isValidScalar C (beNat k) = true then .ok (acc + (ks.map beNat).sum) else .err := by
  induction ks generalizing acc with
  | nil => rw [if_pos (by simp)]; rfl
  | cons k ks ih =>
    rw [sumPrivLoop, ecc_SumPrivateKeys_0, ih]
    cases hk : isValidScalar C (beNat k) <;>
      simp only [List.forall_mem_cons, hk, Bool.not_false, Bool.not_true, Bool.false_eq_true, if_true, if_false,
        false_and, true_and, List.map_cons, List.sum_cons, Nat.add_assoc]

theorem sumPrivateKeys_eq (ks : List Bytes) :
    sumPrivateKeys C ks =
      if ∀ k ∈ ks, isValidScalar C (beNat k) = true then fillBytes32 ((ks.map beNat).sum % C.n) else .err := by
  unfold sumPrivateKeys
  rw [sumPrivLoop_eq, Nat.zero_add]
  split <;> rfl

theorem newPrivateKeyLoop_range (fuel : Nat) (s k : Bytes)
    (h : newPrivateKeyLoop C fuel s = .ok k) : k.length = 32 ∧ 1 ≤ beNat k ∧ beNat k < C.n := by
  induction fuel generalizing s with
  | zero => cases h
  | succ f ih =>
    rw [newPrivateKeyLoop] at h
    dsimp only at h
    by_cases hl : (s.take 32).length ≠ 32
    · rw [if_pos hl] at h; cases h
    by_cases hv : beNat (s.take 32) < C.n - 1
    · rw [if_neg hl, if_pos hv] at h
      obtain ⟨hlt, rfl⟩ := fillBytes32_eq_ok.mp h
      rw [beNat_beBytes 32 _ hlt]
      exact ⟨beBytes_length _ _, Nat.le_add_left _ _, by omega⟩
    · rw [if_neg hl, if_neg hv] at h
      exact ih _ h

theorem parsePoint_len32 {bs : Bytes} (h : bs.length = 32) : parsePoint C bs = liftX C (beNat bs) := by
  unfold parsePoint
  rw [if_neg (by omega), if_neg (by omega), if_pos h]

theorem isValidScalar_iff (d : Nat) : isValidScalar C d = true ↔ 0 < d ∧ d < C.n := by
  simp [isValidScalar]

/-- the two halves of a 64-byte signature `x ‖ y` -/
theorem beNat_take32 {x : Nat} (hx : x < 2 ^ 256) (t : Bytes) : beNat ((beBytes 32 x ++ t).take 32) = x := by
  rw [List.take_left' (beBytes_length _ _), beNat_beBytes 32 _ hx]

theorem beNat_drop32 {y : Nat} (x : Nat) (hy : y < 2 ^ 256) :
    beNat ((beBytes 32 x ++ beBytes 32 y).drop 32) = y := by
  rw [List.drop_left' (beBytes_length _ _), beNat_beBytes 32 _ hy]

theorem verifyECDSA_eq (pub hash : Bytes) (r s : Nat) :
    verifyECDSA C pub hash r s =
      if hash.length ≠ 32 then .panic
      else if isValidScalar C r && isValidScalar C s then
        match deserializePoint C pub with
        | .err => .ok false
        | .panic => .panic
        | .ok P => eklipticVerify C (beNat hash) r s P
      else .ok false := by
  have g0 : ecc_VerifyECDSA_0 hash.length = decide (hash.length ≠ 32) := lenGuard _ 32
  unfold verifyECDSA
  rw [g0, ecc_VerifyECDSA_1]
  simp only [decide_eq_true_eq]
  cases isValidScalar C r <;> cases isValidScalar C s <;> rfl

theorem verifyECDSA_reject_key (pub hash : Bytes) (r s : Nat) (hh : hash.length = 32)
    (hk : deserializePoint C pub = .err) : verifyECDSA C pub hash r s = .ok false := by
  rw [verifyECDSA_eq, if_neg (not_not.mpr hh), hk]
  split <;> rfl

theorem specRange_eq (r s : Nat) :
    (decide (1 ≤ r) && decide (r < C.n) && decide (1 ≤ s) && decide (s < C.n)) =
      (isValidScalar C r && isValidScalar C s) := Bool.and_assoc _ _ _

theorem eklipticSign_inv {d k z r s : Nat} (h : eklipticSign C d k z = .ok (r, s)) :
    isValidScalar C k = true ∧ isValidScalar C d = true ∧
      ∃ R, mulBase C k = .ok R ∧ r = R.1 % C.n ∧
        s = (if C.invN k * (r * d + z) % C.n > C.n / 2 then C.n - C.invN k * (r * d + z) % C.n
             else C.invN k * (r * d + z) % C.n) := by
  unfold eklipticSign at h
  split at h
  · cases h
  split at h
  · cases h
  rename_i hk hd
  obtain ⟨R, hm, h⟩ := Outcome.bind_eq_ok.mp h
  cases h
  exact ⟨by simpa using hk, by simpa using hd, R, hm, rfl, rfl⟩

theorem signECDSA_eq (S : SigOps) (priv hash : Bytes) :
    signECDSA C S priv hash =
      if hash.length ≠ 32 ∨ priv.length ≠ 32 ∨ C.n ≤ beNat priv then .panic
      else eklipticSign C (beNat priv) (S.nonce (beNat priv) hash) (beNat hash) := by
  have g0 : ecc_SignECDSA_0 hash.length = decide (hash.length ≠ 32) := lenGuard _ 32
  have g1 : ecc_SignECDSA_1 priv.length = decide (priv.length ≠ 32) := lenGuard _ 32
  unfold signECDSA
  rw [g0, g1]
  simp only [decide_eq_true_eq, ge_iff_le]
  split
  · rw [if_pos (Or.inl ‹_›)]
  split
  · rw [if_pos (Or.inr (Or.inl ‹_›))]
  split
  · rw [if_pos (Or.inr (Or.inr ‹_›))]
  · rw [if_neg (by omega)]

theorem signECDSA_inv {S : SigOps} {priv hash : Bytes} {r s : Nat}
    (h : signECDSA C S priv hash = .ok (r, s)) :
    hash.length = 32 ∧ priv.length = 32 ∧
      eklipticSign C (beNat priv) (S.nonce (beNat priv) hash) (beNat hash) = .ok (r, s) := by
  rw [signECDSA_eq] at h
  split at h
  · cases h
  · exact ⟨by omega, by omega, h⟩

theorem signECDSA_lowS {S : SigOps} {priv hash : Bytes} {r s : Nat}
    (h : signECDSA C S priv hash = .ok (r, s)) : s ≤ C.n / 2 ∧ r < C.n ∧ s < C.n := by
  obtain ⟨_, _, he⟩ := signECDSA_inv h
  obtain ⟨hk, _, R, _, hr, hs⟩ := eklipticSign_inv he
  have hn : 0 < C.n := by have := (isValidScalar_iff _).mp hk; omega
  have hlt := Nat.mod_lt (C.invN (S.nonce (beNat priv) hash) * (r * beNat priv + beNat hash)) hn
  have hrl := Nat.mod_lt R.1 hn
  have : s ≤ C.n / 2 ∧ s < C.n := by
    rw [hs]
    split <;> omega
  exact ⟨this.1, by omega, this.2⟩

/-- Go's `a.Cmp(b) >= 0`, with `Cmp` translated as a three-way `if` -/
theorem cmpGuard (a b : Nat) :
    decide ((if a < b then (-1 : Int) else if a = b then 0 else 1) ≥ 0) = decide (a ≥ b) := by
  by_cases h1 : a < b
  · simp [h1]
  · by_cases h2 : a = b
    · simp [h2]
    · simp [h1, h2]; omega

/-- every way `VerifySchnorr` says no before it computes anything: a key of the wrong length or one
    that does not decode, `r ≥ p`, `s ≥ n` — whatever the curve operations are -/
theorem verifySchnorr_reject (S : SigOps) (pub msg sig : Bytes) (hm : msg.length = 32) (hs : sig.length = 64)
    (h : pub.length ≠ 32 ∨ deserializePoint C pub = .err ∨
      C.p ≤ beNat (sig.take 32) ∨ C.n ≤ beNat (sig.drop 32)) :
    verifySchnorr C S pub msg sig = .ok false := by
  have g0 : ecc_VerifySchnorr_0 msg.length = false := (lenGuard _ 32).trans (by rw [hm]; rfl)
  have g1 : ecc_VerifySchnorr_1 sig.length = false := (lenGuard _ 64).trans (by rw [hs]; rfl)
  have g2 : ecc_VerifySchnorr_2 pub.length = decide (pub.length ≠ 32) := lenGuard _ 32
  unfold verifySchnorr
  simp only [g0, g1, g2, Bool.false_eq_true, if_false, ecc_VerifySchnorr_3, ecc_VerifySchnorr_4, cmpGuard,
    decide_eq_true_eq]
  by_cases hp : pub.length = 32
  · rw [if_neg (not_not.mpr hp)]
    cases hd : deserializePoint C pub with
    | err => rfl
    | panic => exact absurd hd (deserializePoint_ne_panic pub)
    | ok Q =>
      have hb : C.p ≤ beNat (sig.take 32) ∨ C.n ≤ beNat (sig.drop 32) := by
        rcases h with h | h | h
        · exact absurd hp h
        · rw [hd] at h; cases h
        · exact h
      dsimp only
      by_cases hr : C.p ≤ beNat (sig.take 32)
      · rw [if_pos hr]
      · rw [if_neg hr, if_pos (hb.resolve_left hr)]
  · rw [if_pos hp]

end BtcVerif.Proofs.ECC
