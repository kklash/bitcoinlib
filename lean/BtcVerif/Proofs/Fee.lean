/-
  C15 — fee accounting: closed forms of the three loops (`sumInputs_eq`, `sumFees_eq`, `foldl_addU64`: in the
  monetary range the `uint64` sums never wrap) and the fee of a transaction, inputs minus outputs, an error when
  outputs exceed inputs (`fee_spec`); `Props/C15.lean` derives the block totals from them.
-/
import BtcVerif.Model.Fee

namespace BtcVerif.Proofs.Fee
open BtcVerif BtcVerif.Model BtcVerif.Model.Fee BtcVerif.Prim
open BtcVerif.Gen.Guards

def inputValues (get : PrevOut → Option Nat) : List TxIn → Option (List Nat)
  | [] => some []
  | i :: rest =>
    match get i.prev, inputValues get rest with
    | some v, some vs => some (v :: vs)
    | _, _ => none

def outputSum (t : Tx) : Nat := (t.outputs.map (·.value)).sum

theorem foldl_addU64 (vs : List Nat) (a : Nat) (h : a + vs.sum < two64) : vs.foldl addU64 a = a + vs.sum := by
  induction vs generalizing a with
  | nil => rfl
  | cons v rest ih =>
    rw [List.sum_cons] at h
    rw [List.foldl_cons, List.sum_cons, addU64, Nat.mod_eq_of_lt (by omega), ih _ (by omega), Nat.add_assoc]

theorem foldl_addU64_zero (vs : List Nat) (h : vs.sum < two64) : vs.foldl addU64 0 = vs.sum := by
  rw [foldl_addU64 vs 0 (by rwa [Nat.zero_add]), Nat.zero_add]

theorem totalOutputValue_eq (t : Tx) (h : outputSum t < two64) : totalOutputValue t = outputSum t :=
  calc totalOutputValue t = (t.outputs.map (·.value)).foldl addU64 0 := List.foldl_map.symm
    _ = outputSum t := foldl_addU64_zero _ h

theorem sumInputs_eq (get : PrevOut → Option Nat) (ins : List TxIn) (a : Nat) :
    sumInputs get ins a =
      match inputValues get ins with
      | some vs => .ok (vs.foldl addU64 a)
      | none => .err := by
  induction ins generalizing a with
  | nil => rfl
  | cons i rest ih =>
    rw [sumInputs, inputValues]
    cases get i.prev with
    | none => rfl
    | some v =>
      simp only [ih]
      cases inputValues get rest <;> rfl

theorem totalFeeValue_ne_panic (get : PrevOut → Option Nat) (t : Tx) : totalFeeValue get t ≠ .panic := by
  unfold totalFeeValue totalInputValue
  rw [sumInputs_eq]
  cases inputValues get t.inputs with
  | none => simp
  | some vs => simp only; split <;> simp

theorem fee_spec (get : PrevOut → Option Nat) (t : Tx) (vs : List Nat)
    (hvs : inputValues get t.inputs = some vs) (hin : vs.sum < two64) (hout : outputSum t < two64) :
    totalOutputValue t = outputSum t ∧ totalInputValue get t = .ok vs.sum ∧
    ((outputSum t ≤ vs.sum ∧ totalFeeValue get t = .ok (vs.sum - outputSum t)) ∨
     (vs.sum < outputSum t ∧ totalFeeValue get t = .err)) := by
  have h1 := totalOutputValue_eq t hout
  have h2 : totalInputValue get t = .ok vs.sum := by
    simp only [totalInputValue, sumInputs_eq, hvs, foldl_addU64_zero vs hin]
  refine ⟨h1, h2, ?_⟩
  unfold totalFeeValue
  simp only [h1, h2, feecalc_TotalFeeValue_0]
  by_cases hlt : vs.sum < outputSum t
  · right; simp [hlt]
  · left; simp [hlt]; omega

def feesOf (get : PrevOut → Option Nat) : List Tx → Option (List Nat)
  | [] => some []
  | t :: rest =>
    match totalFeeValue get t, feesOf get rest with
    | .ok f, some fs => some (f :: fs)
    | _, _ => none

theorem sumFees_eq (get : PrevOut → Option Nat) (txs : List Tx) (a : Nat) :
    sumFees get txs a =
      match feesOf get txs with
      | some fs => .ok (fs.foldl addU64 a)
      | none => .err := by
  induction txs generalizing a with
  | nil => rfl
  | cons t rest ih =>
    rw [sumFees, feesOf]
    cases hf : totalFeeValue get t with
    | ok f =>
      simp only [ih]
      cases feesOf get rest <;> rfl
    | err => rfl
    | panic => exact absurd hf (totalFeeValue_ne_panic get t)

end BtcVerif.Proofs.Fee
