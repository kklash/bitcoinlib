/-
  Positional notation: the value of a list of digits in base `b` (most significant first) and the
  digit list of a number, with `b` a variable. The byte-string values of `Model/Basic.lean`, the
  Base58 loops, the bit strings of Bech32 and BIP39 and the base-32 checksum values are instances.
-/
import BtcVerif.Model.Basic

namespace BtcVerif.Proofs

theorem map_map_cancel {α β} {f : α → β} {g : β → α} {l : List α} (h : ∀ x ∈ l, g (f x) = x) :
    (l.map f).map g = l := by
  rw [List.map_map]
  exact (List.map_congr_left h).trans (List.map_id l)

theorem shl_or (a k c : Nat) (h : c < 2 ^ k) : (a <<< k) ||| c = a * 2 ^ k + c := by
  rw [← Nat.shiftLeft_add_eq_or_of_lt h, Nat.shiftLeft_eq]

theorem and128 : ∀ n, n < 256 → (n &&& 128 = 0 ↔ n < 128) ∧ (n &&& 128 = 128 ↔ 128 ≤ n) := by
  decide +kernel

end BtcVerif.Proofs

namespace BtcVerif.Proofs.Digits
open BtcVerif

def ofDigits (b : Nat) (ds : List Nat) : Nat := ds.foldl (fun v d => v * b + d) 0

theorem foldl_shift (b : Nat) (ds : List Nat) : ∀ v,
    ds.foldl (fun v d => v * b + d) v = v * b ^ ds.length + ofDigits b ds := by
  induction ds with
  | nil => intro v; simp [ofDigits]
  | cons d ds ih =>
    intro v
    simp only [ofDigits, List.foldl_cons, List.length_cons]
    rw [ih (v * b + d), ih (0 * b + d)]
    simp only [Nat.zero_mul, Nat.zero_add, Nat.pow_succ, Nat.add_mul]
    rw [Nat.mul_assoc, Nat.mul_comm b (b ^ ds.length)]
    omega

theorem ofDigits_append (b : Nat) (xs ys : List Nat) :
    ofDigits b (xs ++ ys) = ofDigits b xs * b ^ ys.length + ofDigits b ys := by
  rw [ofDigits, List.foldl_append, foldl_shift]
  rfl

theorem ofDigits_cons (b h : Nat) (t : List Nat) :
    ofDigits b (h :: t) = h * b ^ t.length + ofDigits b t := by
  simp only [ofDigits, List.foldl_cons, Nat.zero_mul, Nat.zero_add]
  exact foldl_shift b t h

theorem ofDigits_snoc (b : Nat) (ds : List Nat) (d : Nat) :
    ofDigits b (ds ++ [d]) = ofDigits b ds * b + d := by
  simp [ofDigits, List.foldl_append]

theorem ofDigits_lt (b : Nat) (ds : List Nat) (h : ∀ d ∈ ds, d < b) : ofDigits b ds < b ^ ds.length := by
  induction ds with
  | nil => simp [ofDigits]
  | cons d ds ih =>
    obtain ⟨hd, hds⟩ := List.forall_mem_cons.mp h
    have := ih hds
    have h1 : d * b ^ ds.length + b ^ ds.length ≤ b ^ ds.length * b := by
      rw [Nat.mul_comm (b ^ ds.length) b, ← Nat.succ_mul]
      exact Nat.mul_le_mul_right _ hd
    rw [ofDigits_cons, List.length_cons, Nat.pow_succ]
    omega

theorem ofDigits_append_div (b : Nat) (xs ys : List Nat) (h : ∀ d ∈ ys, d < b) :
    ofDigits b (xs ++ ys) / b ^ ys.length = ofDigits b xs := by
  have hlt := ofDigits_lt b ys h
  rw [ofDigits_append, Nat.mul_comm, Nat.mul_add_div (by omega), Nat.div_eq_of_lt hlt, Nat.add_zero]

theorem ofDigits_append_mod (b : Nat) (xs ys : List Nat) (h : ∀ d ∈ ys, d < b) :
    ofDigits b (xs ++ ys) % b ^ ys.length = ofDigits b ys := by
  rw [ofDigits_append, Nat.mul_add_mod_self_right, Nat.mod_eq_of_lt (ofDigits_lt b ys h)]

theorem ofDigits_take (b : Nat) (ds : List Nat) (k : Nat) (h : ∀ d ∈ ds, d < b) :
    ofDigits b (ds.take k) = ofDigits b ds / b ^ (ds.length - k) := by
  have := ofDigits_append_div b (ds.take k) (ds.drop k) fun d hd => h d (List.mem_of_mem_drop hd)
  rw [List.take_append_drop, List.length_drop] at this
  exact this.symm

theorem ofDigits_inj (b : Nat) : ∀ (xs ys : List Nat), xs.length = ys.length → (∀ d ∈ xs, d < b) →
    (∀ d ∈ ys, d < b) → ofDigits b xs = ofDigits b ys → xs = ys
  | [], [], _, _, _, _ => rfl
  | x :: xs, y :: ys, hl, hx, hy, h => by
    have hl' : xs.length = ys.length := Nat.succ.inj hl
    obtain ⟨_, hxs⟩ := List.forall_mem_cons.mp hx
    obtain ⟨_, hys⟩ := List.forall_mem_cons.mp hy
    have hd := ofDigits_append_div b [x] xs hxs
    have hm := ofDigits_append_mod b [x] xs hxs
    rw [List.singleton_append, h, hl'] at hd hm
    rw [← List.singleton_append (l := ys), ofDigits_append_div b [y] ys hys] at hd
    rw [← List.singleton_append (l := ys), ofDigits_append_mod b [y] ys hys] at hm
    rw [ofDigits_inj b xs ys hl' hxs hys hm.symm, show x = y by simpa [ofDigits] using hd.symm]

theorem ofDigits_testBits (n w : Nat) :
    ofDigits 2 ((List.range w).reverse.map fun i => (n.testBit i).toNat) = n % 2 ^ w := by
  induction w with
  | zero => rw [Nat.pow_zero, Nat.mod_one]; rfl
  | succ w ih =>
    rw [List.range_succ, List.reverse_append, List.reverse_singleton, List.singleton_append, List.map_cons,
      ofDigits_cons, ih, List.length_map, List.length_reverse, List.length_range, Nat.toNat_testBit,
      Nat.mod_pow_succ, Nat.mul_comm, Nat.add_comm]

theorem ofDigits_pos {b : Nat} (hb : 1 ≤ b) {h : Nat} (hh : h ≠ 0) (t : List Nat) : 0 < ofDigits b (h :: t) := by
  have := Nat.mul_pos (Nat.pos_of_ne_zero hh) (Nat.pow_pos (n := t.length) hb)
  rw [ofDigits_cons]
  omega

def toDigits (b : Nat) (n : Nat) (acc : List Nat) : List Nat :=
  if h : n = 0 ∨ b < 2 then acc else toDigits b (n / b) (n % b :: acc)
termination_by n
decreasing_by exact Nat.div_lt_self (by omega) (by omega)

theorem toDigits_zero (b : Nat) (acc : List Nat) : toDigits b 0 acc = acc := by
  rw [toDigits]; simp

theorem toDigits_step {b n : Nat} (hb : 2 ≤ b) (hn : n ≠ 0) (acc : List Nat) :
    toDigits b n acc = toDigits b (n / b) (n % b :: acc) := by
  rw [toDigits]
  have : ¬ (n = 0 ∨ b < 2) := by omega
  simp [this]

theorem toDigits_acc {b : Nat} (hb : 2 ≤ b) (n : Nat) :
    ∀ acc, toDigits b n acc = toDigits b n [] ++ acc := by
  induction n using Nat.strongRecOn with
  | _ n ih =>
    intro acc
    by_cases hn : n = 0
    · subst hn; simp [toDigits_zero]
    · have hlt : n / b < n := Nat.div_lt_self (by omega) (by omega)
      rw [toDigits_step hb hn, toDigits_step hb hn [], ih _ hlt (n % b :: acc), ih _ hlt [n % b]]
      simp

theorem toDigits_snoc {b n : Nat} (hb : 2 ≤ b) (hn : n ≠ 0) :
    toDigits b n [] = toDigits b (n / b) [] ++ [n % b] := by
  rw [toDigits_step hb hn, toDigits_acc hb]

theorem ofDigits_toDigits {b : Nat} (hb : 2 ≤ b) (n : Nat) : ofDigits b (toDigits b n []) = n := by
  induction n using Nat.strongRecOn with
  | _ n ih =>
    by_cases hn : n = 0
    · subst hn; simp [toDigits_zero, ofDigits]
    · have hlt : n / b < n := Nat.div_lt_self (by omega) (by omega)
      rw [toDigits_snoc hb hn, ofDigits_snoc, ih _ hlt]
      have := Nat.div_add_mod n b
      rw [Nat.mul_comm]; exact this

theorem toDigits_lt {b : Nat} (hb : 2 ≤ b) (n : Nat) : ∀ d ∈ toDigits b n [], d < b := by
  induction n using Nat.strongRecOn with
  | _ n ih =>
    by_cases hn : n = 0
    · subst hn; simp [toDigits_zero]
    · have hlt : n / b < n := Nat.div_lt_self (by omega) (by omega)
      rw [toDigits_snoc hb hn]
      intro d hd
      rw [List.mem_append] at hd
      rcases hd with hd | hd
      · exact ih _ hlt d hd
      · simp at hd; subst hd; exact Nat.mod_lt _ (by omega)

theorem toDigits_ne_nil {b n : Nat} (hb : 2 ≤ b) (hn : n ≠ 0) : toDigits b n [] ≠ [] := by
  rw [toDigits_snoc hb hn]; simp

theorem toDigits_head {b : Nat} (hb : 2 ≤ b) (n : Nat) : (toDigits b n []).head? ≠ some 0 := by
  induction n using Nat.strongRecOn with
  | _ n ih =>
    by_cases hn : n = 0
    · subst hn; simp [toDigits_zero]
    · have hlt : n / b < n := Nat.div_lt_self (by omega) (by omega)
      rw [toDigits_snoc hb hn]
      by_cases hq : n / b = 0
      · rw [hq, toDigits_zero]
        have : n % b = n := Nat.mod_eq_of_lt (by
          rcases Nat.lt_or_ge n b with h | h
          · exact h
          · have : 0 < n / b := Nat.div_pos h (by omega)
            omega)
        simp [this, hn]
      · have hne := toDigits_ne_nil hb hq
        have := ih _ hlt
        cases hd : toDigits b (n / b) [] with
        | nil => exact absurd hd hne
        | cons x xs => rw [hd] at this; simpa using this

theorem ofDigits_cons_zero (b : Nat) (ds : List Nat) : ofDigits b (0 :: ds) = ofDigits b ds := by
  simp [ofDigits]

theorem ofDigits_replicate_zero (b : Nat) (k : Nat) (ds : List Nat) :
    ofDigits b (List.replicate k 0 ++ ds) = ofDigits b ds := by
  induction k with
  | zero => simp
  | succ k ih => rw [List.replicate_succ, List.cons_append, ofDigits_cons_zero, ih]

/-- Stated for `rs.reverse` so that the induction on `rs` takes off the least significant digit, the
    one `toDigits` produces first. -/
theorem toDigits_ofDigits_rev {b : Nat} (hb : 2 ≤ b) (rs : List Nat) :
    (∀ d ∈ rs, d < b) → rs.reverse.head? ≠ some 0 →
    toDigits b (ofDigits b rs.reverse) [] = rs.reverse := by
  induction rs with
  | nil => intro _ _; simp [ofDigits, toDigits_zero]
  | cons d rs ih =>
    intro hlt hhead
    have hd : d < b := hlt d (by simp)
    have hlt' : ∀ x ∈ rs, x < b := fun x hx => hlt x (by simp [hx])
    rw [List.reverse_cons, ofDigits_snoc]
    cases hrs : rs.reverse with
    | nil =>
      have hd0 : d ≠ 0 := by
        rw [List.reverse_cons, hrs] at hhead; simpa using hhead
      simp only [ofDigits, List.foldl_nil, Nat.zero_mul, Nat.zero_add, List.nil_append]
      rw [toDigits_step hb hd0, Nat.div_eq_of_lt hd, Nat.mod_eq_of_lt hd, toDigits_zero]
    | cons x xs =>
      have hx0 : x ≠ 0 := by
        rw [List.reverse_cons, hrs] at hhead; simpa using hhead
      have hhead' : rs.reverse.head? ≠ some 0 := by rw [hrs]; simpa using hx0
      have hV : 0 < ofDigits b (x :: xs) := ofDigits_pos (by omega) hx0 xs
      have hn : ofDigits b (x :: xs) * b + d ≠ 0 := by
        have : 0 < ofDigits b (x :: xs) * b := Nat.mul_pos hV (by omega)
        omega
      have hdiv : (ofDigits b (x :: xs) * b + d) / b = ofDigits b (x :: xs) := by
        rw [Nat.mul_comm, Nat.mul_add_div (by omega), Nat.div_eq_of_lt hd]; simp
      have hmod : (ofDigits b (x :: xs) * b + d) % b = d := by
        rw [Nat.mul_comm, Nat.mul_add_mod, Nat.mod_eq_of_lt hd]
      rw [toDigits_snoc hb hn, hdiv, hmod, ← hrs, ih hlt' hhead']

theorem toDigits_ofDigits {b : Nat} (hb : 2 ≤ b) (ds : List Nat)
    (hlt : ∀ d ∈ ds, d < b) (hhead : ds.head? ≠ some 0) :
    toDigits b (ofDigits b ds) [] = ds := by
  have := toDigits_ofDigits_rev hb ds.reverse (by simpa using hlt) (by simpa using hhead)
  simpa using this

theorem toDigits_length_lt {b : Nat} (hb : 2 ≤ b) (n : Nat) : n < b ^ (toDigits b n []).length := by
  have := ofDigits_lt b _ (toDigits_lt hb n)
  rwa [ofDigits_toDigits hb] at this

theorem pow_le_of_toDigits {b : Nat} (hb : 2 ≤ b) {n : Nat} (hn : n ≠ 0) :
    b ^ ((toDigits b n []).length - 1) ≤ n := by
  have hh := toDigits_head hb n
  have hv := ofDigits_toDigits hb n
  cases hd : toDigits b n [] with
  | nil => rw [hd] at hv; exact absurd hv.symm hn
  | cons x xs =>
    rw [hd, ofDigits_cons] at hv
    rw [hd, List.head?_cons] at hh
    have : 1 * b ^ xs.length ≤ x * b ^ xs.length :=
      Nat.mul_le_mul_right _ (Nat.pos_of_ne_zero fun h0 => hh (by rw [h0]))
    rw [List.length_cons, Nat.add_sub_cancel]
    omega

/-- The common shape of `Base58.encLoop` (a `big.Int` divided down by 58) and `Base58.natBytesAux` (by
    256): `loop` is any function with their two unfolding equations. -/
theorem accLoop_eq {α : Type} {b : Nat} (hb : 2 ≤ b) (f : Nat → α) (loop : Nat → List α → List α)
    (h0 : ∀ acc, loop 0 acc = acc)
    (hs : ∀ n acc, n ≠ 0 → loop n acc = loop (n / b) (f (n % b) :: acc)) :
    ∀ n acc, loop n acc = (toDigits b n []).map f ++ acc := by
  intro n
  induction n using Nat.strongRecOn with
  | _ n ih =>
    intro acc
    by_cases hn : n = 0
    · rw [hn, h0, toDigits_zero]; rfl
    · rw [hs n acc hn, ih _ (Nat.div_lt_self (by omega) (by omega)), toDigits_snoc hb hn, List.map_append,
        List.append_assoc]
      rfl

theorem leNat_eq (rs : Bytes) : leNat rs = ofDigits 256 (rs.reverse.map UInt8.toNat) := by
  induction rs with
  | nil => simp [leNat, ofDigits]
  | cons b rs ih =>
    simp only [leNat, List.reverse_cons, List.map_append, List.map_cons, List.map_nil]
    rw [ofDigits_snoc, ← ih]; omega

theorem beNat_eq (bs : Bytes) : beNat bs = ofDigits 256 (bs.map UInt8.toNat) := by
  simp [beNat, leNat_eq]

theorem leNat_append (xs ys : Bytes) : leNat (xs ++ ys) = leNat xs + 256 ^ xs.length * leNat ys := by
  simp only [leNat_eq, List.reverse_append, List.map_append, ofDigits_append, List.length_map, List.length_reverse]
  rw [Nat.mul_comm, Nat.add_comm]

end BtcVerif.Proofs.Digits
