/-
  The mathematical hypotheses under which the ECC theorems (C04, C05, C06) are stated.
  They are **structure fields, never axioms**: every theorem takes `(H : FieldHyp C)` or
  `(H : CurveAbs C)` as an explicit argument, and `Proofs/CurveAbsToy.lean` instantiates both for a
  genuine small curve (`y² = x³ + 7` over F₄₃, prime order 31, ekliptic's affine formulas), so the
  hypotheses are jointly satisfiable and no theorem is vacuous.

  `FieldHyp C` — about the field prime `p` and the opaque square-root exponentiation:
     range facts, `SqrtComplete` (if `c` is a square, `sqrtExp c` is a root), `SqrtUnique`
     (`y² = z²` only for `z = ±y`; proved from `p` prime in `sqrt_unique_of_prime`, see `FieldHyp.ofPrime`), and the two arithmetic facts that make
     "a zero coordinate" synonymous with "not a finite point": 7 is not a square and −7 is not a
     cube modulo `p` (true for secp256k1: the group has prime order, hence no point of order 2
     (`y = 0`) or 3 (`x = 0`)).
  `CurveAbs C` — the hypotheses DESIGN.md calls `SecpGroup` + `XOnly`, for `Model.ECC.CurveOps` (the
     structures of those names in Proofs/GroupAbs.lean are the separate package of C07 / C13 over
     `Model.Bip32.CurveOps`; nothing connects the two): a commutative group `Pt` with coordinates `xy`
     (`xy 0 = (0,0)`, ekliptic's infinity), whose non-zero elements are exactly the reduced
     solutions of the curve equation, a generator `G` of exact order `n`, `n·P = 0` for all `P`,
     negation mirrors `y`, and the record's `add`/`mul`/`invN` compute the group law / the inverse
     modulo `n`.
-/
import Mathlib.Data.ZMod.Basic
import Mathlib.Algebra.Field.ZMod
import Mathlib.Tactic.Ring
import Mathlib.Tactic.LinearCombination
import BtcVerif.Model.ECC
import BtcVerif.Spec.ECC

namespace BtcVerif.Proofs
open BtcVerif BtcVerif.Model.ECC

structure FieldHyp (C : CurveOps) : Prop where
  p_gt : 7 < C.p
  p_odd : C.p % 2 = 1
  p_lt : C.p < 2 ^ 256
  /-- `big.Int.Exp(·, ·, P)` returns a reduced value -/
  sqrtExp_lt : ∀ c, C.sqrtExp c < C.p
  /-- SqrtComplete: for a square `c`, `c^((p+1)/4)` is a square root -/
  sqrt_complete : ∀ c y, y < C.p → y * y % C.p = c → C.sqrtExp c * C.sqrtExp c % C.p = c
  /-- SqrtUnique: a field element has at most the two roots `±y` -/
  sqrt_unique : ∀ y z, y < C.p → z < C.p → y * y % C.p = z * z % C.p → z = y ∨ z + y = C.p
  /-- no curve point has `x = 0`: 7 is a quadratic non-residue -/
  no_x_zero : ∀ y, y < C.p → y * y % C.p ≠ 7
  /-- no curve point has `y = 0`: −7 is not a cube -/
  no_y_zero : ∀ x, x < C.p → (x * x * x + 7) % C.p ≠ 0

structure CurveAbs (C : CurveOps) where
  field : FieldHyp C
  Pt : Type
  [grp : AddCommGroup Pt]
  G : Pt
  /-- affine coordinates; ekliptic's `(0,0)` for the neutral element -/
  xy : Pt → Nat × Nat
  xy_zero : xy 0 = (0, 0)
  xy_inj : ∀ P Q, xy P = xy Q → P = Q
  xy_G : xy G = (C.gx, C.gy)
  on_curve : ∀ P, P ≠ 0 → Spec.ECC.validPoint C (xy P) = true
  surj : ∀ Q : Nat × Nat, Spec.ECC.validPoint C Q = true → ∃ P, P ≠ 0 ∧ xy P = Q
  /-- XOnly: negation keeps `x` and mirrors `y` -/
  neg_xy : ∀ P, P ≠ 0 → xy (-P) = ((xy P).1, C.p - (xy P).2)
  n_gt : 1 < C.n
  n_lt : C.n < 2 ^ 256
  order : ∀ P : Pt, C.n • P = 0
  G_order : ∀ k : ℕ, k • G = 0 → C.n ∣ k
  add_spec : ∀ P Q, C.add (xy P) (xy Q) = xy (P + Q)
  mul_spec : ∀ (k : ℕ) P, C.mul k (xy P) = xy (k • P)
  invN_spec : ∀ s, 0 < s → s < C.n → C.invN s * s % C.n = 1

attribute [instance] CurveAbs.grp

namespace FieldHyp
variable {C : CurveOps} (H : FieldHyp C)
include H

theorem p_pos : 0 < C.p := by have := H.p_gt; omega

theorem seven_mod : 7 % C.p = 7 := Nat.mod_eq_of_lt H.p_gt

theorem sub_even {y : Nat} (hy : y ≤ C.p) : (C.p - y) % 2 = 0 ↔ y % 2 = 1 := by
  rw [← Nat.even_iff, Nat.even_sub hy, Nat.even_iff, Nat.even_iff, H.p_odd, ← Nat.mod_two_ne_zero]
  simp only [Nat.one_ne_zero, false_iff, ne_eq]

theorem sub_odd {y : Nat} (hy : y ≤ C.p) : (C.p - y) % 2 = 1 ↔ y % 2 = 0 := by
  rw [← Nat.mod_two_ne_zero, Ne, H.sub_even hy]
  exact Nat.mod_two_ne_one

end FieldHyp

theorem neg_sq_mod (p y : Nat) (h : y ≤ p) : (p - y) * (p - y) % p = y * y % p := by
  obtain ⟨d, rfl⟩ : ∃ d, p = y + d := ⟨p - y, by omega⟩
  have e : y + d - y = d := by omega
  rw [e]
  have : d * d + (y + d) * (2 * y) = y * y + (y + d) * (y + d) := by ring
  have h1 : (d * d + (y + d) * (2 * y)) % (y + d) = d * d % (y + d) := Nat.add_mul_mod_self_left _ _ _
  have h2 : (y * y + (y + d) * (y + d)) % (y + d) = y * y % (y + d) := Nat.add_mul_mod_self_left _ _ _
  rw [← h1, this, h2]

/-- SqrtUnique is not an extra assumption: it holds for every prime modulus -/
theorem sqrt_unique_of_prime {p : ℕ} (hp : p.Prime) (y z : ℕ) (hy : y < p) (hz : z < p)
    (h : y * y % p = z * z % p) : z = y ∨ z + y = p := by
  have : Fact p.Prime := ⟨hp⟩
  have hc : ((y : ZMod p)) * y = (z : ZMod p) * z := by
    have := (ZMod.natCast_eq_natCast_iff' (y * y) (z * z) p).mpr h
    simpa using this
  rcases mul_self_eq_mul_self_iff.mp hc with h1 | h1
  · left
    have := (ZMod.natCast_eq_natCast_iff' y z p).mp h1
    rw [Nat.mod_eq_of_lt hy, Nat.mod_eq_of_lt hz] at this
    exact this.symm
  · -- `p ∣ z + y < 2p`
    obtain ⟨k, hk⟩ := (ZMod.natCast_eq_zero_iff (z + y) p).mp (by push_cast; rw [h1]; ring)
    have hk2 : k < 2 := Nat.lt_of_mul_lt_mul_left (a := p) (by omega)
    match k, hk2, hk with
    | 0, _, hk => left; omega
    | 1, _, hk => right; omega

/-- `FieldHyp` from primality: `SqrtUnique` and oddness are consequences of `p` being a prime > 7 -/
theorem FieldHyp.ofPrime {C : CurveOps} (hp : C.p.Prime) (h7 : 7 < C.p) (hlt : C.p < 2 ^ 256)
    (h1 : ∀ c, C.sqrtExp c < C.p)
    (h2 : ∀ c y, y < C.p → y * y % C.p = c → C.sqrtExp c * C.sqrtExp c % C.p = c)
    (h3 : ∀ y, y < C.p → y * y % C.p ≠ 7) (h4 : ∀ x, x < C.p → (x * x * x + 7) % C.p ≠ 0) : FieldHyp C where
  p_gt := h7
  p_odd := by
    rcases hp.eq_two_or_odd with h | h
    · omega
    · exact h
  p_lt := hlt
  sqrtExp_lt := h1
  sqrt_complete := h2
  sqrt_unique := fun y z hy hz h => sqrt_unique_of_prime hp y z hy hz h
  no_x_zero := h3
  no_y_zero := h4

namespace ECC
open BtcVerif.Spec.ECC (validPoint)
variable {C : CurveOps}

theorem validPoint_iff (P : Pt) : validPoint C P = true ↔
    P.1 < C.p ∧ P.2 < C.p ∧ P.2 * P.2 % C.p = (P.1 * P.1 * P.1 + 7) % C.p := by
  simp [validPoint, and_assoc]

theorem validPoint_ne_zero (H : FieldHyp C) {P : Pt} (h : validPoint C P = true) : P.1 ≠ 0 ∧ P.2 ≠ 0 := by
  rw [validPoint_iff] at h
  obtain ⟨hx, hy, he⟩ := h
  constructor
  · intro h0
    rw [h0] at he
    simp only [Nat.mul_zero, Nat.zero_add, H.seven_mod] at he
    exact H.no_x_zero _ hy he
  · intro h0
    rw [h0] at he
    simp only [Nat.mul_zero, Nat.zero_mod] at he
    exact H.no_y_zero _ hx he.symm

end ECC

namespace CurveAbs
variable {C : CurveOps} (H : CurveAbs C)
include H

theorem n_pos : 0 < C.n := by have := H.n_gt; omega

theorem xy_eq_zero_iff (P : H.Pt) : H.xy P = (0, 0) ↔ P = 0 := by
  constructor
  · intro h
    exact H.xy_inj _ _ (by rw [h, H.xy_zero])
  · rintro rfl; exact H.xy_zero

theorem on_curve' (P : H.Pt) (hP : P ≠ 0) :
    (H.xy P).1 < C.p ∧ (H.xy P).2 < C.p ∧
      (H.xy P).2 * (H.xy P).2 % C.p = ((H.xy P).1 * (H.xy P).1 * (H.xy P).1 + 7) % C.p :=
  (ECC.validPoint_iff _).mp (H.on_curve P hP)

theorem coords_ne_zero (P : H.Pt) (hP : P ≠ 0) : (H.xy P).1 ≠ 0 ∧ (H.xy P).2 ≠ 0 :=
  ECC.validPoint_ne_zero H.field (H.on_curve P hP)

theorem isOnCurveAffine_xy (P : H.Pt) : isOnCurveAffine C (H.xy P) = true := by
  by_cases hP : P = 0
  · subst hP; simp [isOnCurveAffine, H.xy_zero]
  · obtain ⟨_, _, he⟩ := H.on_curve' P hP
    simp [isOnCurveAffine, he]

theorem nsmul_mod (k : ℕ) (P : H.Pt) : (k % C.n) • P = k • P := by
  conv_rhs => rw [← Nat.div_add_mod k C.n]
  rw [add_nsmul, mul_nsmul, H.order, smul_zero, zero_add]

theorem nsmul_congr {a b : ℕ} (h : a % C.n = b % C.n) (P : H.Pt) : a • P = b • P := by
  rw [← H.nsmul_mod a, ← H.nsmul_mod b, h]

theorem nsmul_neg_of_add {a b : ℕ} (h : (a + b) % C.n = 0) (P : H.Pt) : a • P = -(b • P) := by
  have : (a + b) • P = 0 := by rw [← H.nsmul_mod, h, zero_nsmul]
  rw [add_nsmul] at this
  exact eq_neg_of_add_eq_zero_left this

theorem nsmul_G_ne_zero {k : ℕ} (h0 : 0 < k) (hn : k < C.n) : k • H.G ≠ 0 := by
  intro h
  have := Nat.le_of_dvd h0 (H.G_order k h)
  omega

theorem G_ne_zero : H.G ≠ 0 := by
  have := H.nsmul_G_ne_zero (k := 1) (by omega) H.n_gt
  simpa using this

theorem mulBase_eq {k : ℕ} (hk : k < 2 ^ 256) : mulBase C k = .ok (H.xy (k • H.G)) := by
  unfold mulBase
  rw [if_pos hk, Model.ECC.G, ← H.xy_G, H.mul_spec]

theorem mulAffine_eq (k : ℕ) (P : H.Pt) (hk : k < 2 ^ 256) :
    mulAffine C k (H.xy P) = .ok (H.xy (k • P)) := by
  unfold mulAffine
  rw [H.isOnCurveAffine_xy, Nat.mod_eq_of_lt hk, H.mul_spec]
  rfl

theorem negateY_xy (P : H.Pt) : ((H.xy P).1, negateY C (H.xy P).2) = H.xy (-P) := by
  by_cases hP : P = 0
  · subst hP; simp [H.xy_zero, negateY]
  · rw [H.neg_xy P hP]
    simp [negateY, (H.coords_ne_zero P hP).2]

theorem subAffine_eq (P Q : H.Pt) : subAffine C (H.xy P) (H.xy Q) = H.xy (P - Q) := by
  rw [subAffine, H.negateY_xy, H.add_spec, sub_eq_add_neg]

theorem specNeg_eq (P : H.Pt) : Spec.ECC.neg C (H.xy P) = H.xy (-P) := by
  by_cases hP : P = 0
  · subst hP; simp [Spec.ECC.neg, Spec.ECC.isInfinity, H.xy_zero]
  · have := H.coords_ne_zero P hP
    rw [H.neg_xy P hP]
    simp [Spec.ECC.neg, Spec.ECC.isInfinity, this.1]

theorem isInfinity_xy (P : H.Pt) : Spec.ECC.isInfinity (H.xy P) = true ↔ P = 0 := by
  by_cases hP : P = 0
  · subst hP; simp [Spec.ECC.isInfinity, H.xy_zero]
  · simp [Spec.ECC.isInfinity, hP, (H.coords_ne_zero P hP).1]

theorem neg_even (P : H.Pt) (hP : P ≠ 0) : (H.xy (-P)).2 % 2 = 0 ↔ (H.xy P).2 % 2 = 1 := by
  rw [H.neg_xy P hP]
  exact H.field.sub_even (H.on_curve' P hP).2.1.le

theorem neg_x (P : H.Pt) : (H.xy (-P)).1 = (H.xy P).1 := by
  by_cases hP : P = 0
  · subst hP; simp
  · rw [H.neg_xy P hP]

end CurveAbs

end BtcVerif.Proofs
