/-
  Named mathematical hypotheses about the curve operations (DESIGN.md section 5): never axioms,
  always fields of a structure that a theorem takes as an argument.

  * `SecpGroup C` : the points with `add`/`neg`/`zero` are a commutative group, `k ↦ mulG k` is the
    homomorphism `k ↦ k·G`, and `G` has order exactly `n ≤ 2^256`.
  * `PointCodec C`: the three serialisations have their fixed widths and `ecc.DeserializePoint`
    inverts the compressed and the uncompressed one on every point but infinity.
  * `XOnly C S`   : `x(−P) = x(P)`, the parity of `y` flips under negation, and parsing the 32-byte
    x-only form returns the point with even `y` (BIP340 `lift_x`).

  The package is shown consistent by a toy instance (`toy`, the additive group of integers mod 7
  with `x a = min a (7−a)` and "odd" meaning `a > 3`; coordinates are written as 31 zero bytes
  and one value byte, with the prefixes 2/3/4 of the real encodings), so no theorem is vacuous
  because its hypotheses cannot be met. `isValidScalar_iff` unfolds the model's scalar test once
  for all users. There is no bridge to `Proofs/CurveAbs.lean`, the hypotheses over `Model.ECC`.
  Core Lean only (no Mathlib needed).
-/
import BtcVerif.Model.Bip32

namespace BtcVerif.Proofs
open BtcVerif BtcVerif.Model BtcVerif.Model.Bip32

structure SecpGroup {P : Type} (C : CurveOps P) where
  neg : P → P
  n_pos : 0 < C.n
  n_le : C.n ≤ 2 ^ 256
  add_comm : ∀ a b, C.add a b = C.add b a
  add_assoc : ∀ a b c, C.add (C.add a b) c = C.add a (C.add b c)
  zero_add : ∀ a, C.add C.zero a = a
  neg_add : ∀ a, C.add (neg a) a = C.zero
  mulG_zero : C.mulG 0 = C.zero
  mulG_add : ∀ a b, C.mulG (a + b) = C.add (C.mulG a) (C.mulG b)
  mulG_n : C.mulG C.n = C.zero
  mulG_ne_zero : ∀ a, 0 < a → a < C.n → C.mulG a ≠ C.zero

structure PointCodec {P : Type} (C : CurveOps P) where
  compress_length : ∀ a, (C.compress a).length = 33
  uncompress_length : ∀ a, (C.uncompress a).length = 65
  xBytes_length : ∀ a, (C.xBytes a).length = 32
  parse_compress : ∀ a, a ≠ C.zero → C.parse (C.compress a) = some a
  parse_uncompress : ∀ a, a ≠ C.zero → C.parse (C.uncompress a) = some a

structure XOnly {P : Type} (C : CurveOps P) (S : SecpGroup C) where
  xBytes_neg : ∀ a, C.xBytes (S.neg a) = C.xBytes a
  yOdd_neg : ∀ a, a ≠ C.zero → C.yOdd (S.neg a) = !C.yOdd a
  parse_xBytes : ∀ a, a ≠ C.zero → C.parse (C.xBytes a) = some (if C.yOdd a then S.neg a else a)

theorem isValidScalar_iff {n d : Nat} : isValidScalar n d = true ↔ 0 < d ∧ d < n := by
  simp [isValidScalar]

namespace SecpGroup
variable {P : Type} {C : CurveOps P} (S : SecpGroup C)
include S

theorem mod_n_lt (x : Nat) : x % C.n < 2 ^ 256 := Nat.lt_of_lt_of_le (Nat.mod_lt _ S.n_pos) S.n_le

theorem valid_lt {d : Nat} (h : isValidScalar C.n d = true) : d < 2 ^ 256 :=
  Nat.lt_of_lt_of_le (isValidScalar_iff.mp h).2 S.n_le

theorem add_zero (a : P) : C.add a C.zero = a := by rw [S.add_comm, S.zero_add]

theorem add_neg (a : P) : C.add a (S.neg a) = C.zero := by rw [S.add_comm, S.neg_add]

theorem add_left_cancel {a b c : P} (h : C.add a b = C.add a c) : b = c := by
  have := congrArg (C.add (S.neg a)) h
  rwa [← S.add_assoc, ← S.add_assoc, S.neg_add, S.zero_add, S.zero_add] at this

theorem eq_neg_of_add_eq_zero {a b : P} (h : C.add b a = C.zero) : b = S.neg a := by
  have h2 : C.add a b = C.add a (S.neg a) := by rw [S.add_neg, S.add_comm, h]
  exact S.add_left_cancel h2

theorem neg_ne_zero {a : P} (h : a ≠ C.zero) : S.neg a ≠ C.zero := by
  intro h0
  have := S.add_neg a
  rw [h0, S.add_zero] at this
  exact h this

theorem mulG_mul_n (q : Nat) : C.mulG (C.n * q) = C.zero := by
  induction q with
  | zero => simpa using S.mulG_zero
  | succ q ih => rw [Nat.mul_succ, S.mulG_add, ih, S.mulG_n, S.zero_add]

theorem mulG_mod (a : Nat) : C.mulG (a % C.n) = C.mulG a := by
  conv => rhs; rw [← Nat.mod_add_div a C.n]
  rw [S.mulG_add, S.mulG_mul_n, S.add_zero]

theorem mulG_sub (d : Nat) (h : d ≤ C.n) : C.mulG (C.n - d) = S.neg (C.mulG d) := by
  apply S.eq_neg_of_add_eq_zero
  rw [← S.mulG_add, Nat.sub_add_cancel h, S.mulG_n]

theorem mulG_valid_ne_zero {d : Nat} (h : isValidScalar C.n d = true) : C.mulG d ≠ C.zero :=
  S.mulG_ne_zero d (isValidScalar_iff.mp h).1 (isValidScalar_iff.mp h).2

end SecpGroup

def toyX (a : Fin 7) : UInt8 := if a.val ≤ 3 then UInt8.ofNat a.val else UInt8.ofNat (7 - a.val)

/-- the element with "x-coordinate" `x` (1..3) and the given parity -/
def toyPoint (x : UInt8) (odd : Bool) : Option (Fin 7) :=
  if x = 1 then some (if odd then 6 else 1)
  else if x = 2 then some (if odd then 5 else 2)
  else if x = 3 then some (if odd then 4 else 3)
  else none

def toyPad (k : Nat) (b : UInt8) : Bytes := List.replicate k 0 ++ [b]

def toy : CurveOps (Fin 7) where
  n := 7
  zero := 0
  add a b := a + b
  mulG k := Fin.ofNat 7 k
  xBytes a := toyPad 31 (toyX a)
  yOdd a := decide (3 < a.val)
  compress a := (if 3 < a.val then (3 : UInt8) else 2) :: toyPad 31 (toyX a)
  uncompress a := (4 : UInt8) :: (toyPad 31 (toyX a) ++ toyPad 31 (UInt8.ofNat a.val))
  parse bs :=
    match bs.length, bs with
    | 32, _ => toyPoint (bs.getLastD 0) false
    | 33, pre :: rest => if pre = 2 then toyPoint (rest.getLastD 0) false
                         else if pre = 3 then toyPoint (rest.getLastD 0) true else none
    | 65, pre :: rest =>
      if pre = 4 then
        match toyPoint ((rest.take 32).getLastD 0) (decide (3 < (rest.getLastD 0).toNat)) with
        | some a => if UInt8.ofNat a.val = rest.getLastD 0 then some a else none
        | none => none
      else none
    | _, _ => none

def toyGroup : SecpGroup toy where
  neg a := -a
  n_pos := by decide
  n_le := by decide
  add_comm := by decide
  add_assoc := by decide
  zero_add := by decide
  neg_add := by decide
  mulG_zero := by decide
  mulG_add := by
    intro a b
    show Fin.ofNat 7 (a + b) = Fin.ofNat 7 a + Fin.ofNat 7 b
    apply Fin.ext
    simp [Fin.ofNat, Fin.add_def]
  mulG_n := by decide
  mulG_ne_zero := by
    intro a h0 h7
    show Fin.ofNat 7 a ≠ 0
    intro h
    have := congrArg Fin.val h
    simp [Fin.ofNat] at this
    have h7' : a < 7 := h7
    omega

theorem toyCodec : PointCodec toy where
  compress_length := by decide +kernel
  uncompress_length := by decide +kernel
  xBytes_length := by decide +kernel
  parse_compress := by decide +kernel
  parse_uncompress := by decide +kernel

theorem toyXOnly : XOnly toy toyGroup where
  xBytes_neg := by decide +kernel
  yOdd_neg := by decide +kernel
  parse_xBytes := by decide +kernel

end BtcVerif.Proofs
