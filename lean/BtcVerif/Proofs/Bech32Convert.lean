/-
  The loop of the reference `convertbits` (`Spec/Bech32.lean`) at the level of bit strings, for any
  two group widths: the accumulator holds the pending bits in its low end, and what is emitted are
  the whole groups of the bits read so far.
-/
import BtcVerif.Proofs.Bech32Bits
import BtcVerif.Spec.Bech32

namespace BtcVerif.Proofs.Bech32
open BtcVerif BtcVerif.Model BtcVerif.Model.Bech32

theorem low_bits_append (acc : Nat) (xs ys : Bits)
    (h : acc % 2 ^ (xs ++ ys).length = bitsToNat (xs ++ ys)) :
    acc / 2 ^ ys.length % 2 ^ xs.length = bitsToNat xs ∧ acc % 2 ^ ys.length = bitsToNat ys := by
  rw [List.length_append, Nat.add_comm, Nat.pow_add] at h
  constructor
  · rw [← Nat.mod_mul_right_div_self, h, bitsToNat_append_div]
  · rw [← Nat.mod_mod_of_dvd acc (Nat.dvd_mul_right _ _), h, bitsToNat_append_mod]

theorem mul_add_mod_mul (a v B F : Nat) (hv : v < F) : (a * F + v) % (B * F) = a % B * F + v := by
  rw [Nat.mul_comm B F, Nat.mod_mul, Nat.mul_add_mod_self_right, Nat.mod_eq_of_lt hv, Nat.mul_comm a F,
    Nat.mul_add_div (by omega), Nat.div_eq_of_lt hv, Nat.add_zero, Nat.add_comm, Nat.mul_comm]

/-- shifting the bits `ys` of `v` in below the low bits `xs` of `acc`, under a mask that is wide enough -/
theorem low_bits_push (acc v w : Nat) (xs ys : Bits) (hacc : acc % 2 ^ xs.length = bitsToNat xs)
    (hv : bitsToNat ys = v) (hw : (xs ++ ys).length ≤ w) :
    (((acc <<< ys.length) ||| v) &&& (2 ^ w - 1)) % 2 ^ (xs ++ ys).length = bitsToNat (xs ++ ys) := by
  have hlt : v < 2 ^ ys.length := hv ▸ bitsToNat_lt ys
  rw [Nat.and_two_pow_sub_one_eq_mod, Nat.mod_mod_of_dvd _ (Nat.pow_dvd_pow 2 hw),
    shl_or _ _ _ hlt, bitsToNat_append, ← hacc, hv,
    List.length_append, Nat.pow_add, mul_add_mod_mul _ _ _ _ hlt]

/-- masking the shifted remainder, as `convertbits` does for its padding -/
theorem shl_mask (acc r t : Nat) (h : r ≤ t) :
    (acc <<< (t - r)) &&& (2 ^ t - 1) = acc % 2 ^ r * 2 ^ (t - r) := by
  rw [Nat.and_two_pow_sub_one_eq_mod, Nat.shiftLeft_eq, ← Nat.mul_mod_mul_right, ← Nat.pow_add,
    Nat.add_sub_cancel' h]

/-- the `while bits >= tobits` loop emits the whole groups of the pending bits `X` -/
theorem drain_bits (t : Nat) (h0 : 0 < t) (acc : Nat) : ∀ (fuel : Nat) (X : Bits) (ret : List Nat),
    X.length < fuel → acc % 2 ^ X.length = bitsToNat X →
    ∃ gs R, Chunked t X gs R ∧ acc % 2 ^ R.length = bitsToNat R ∧
      Spec.Bech32.drain t (2 ^ t - 1) acc fuel X.length ret = (R.length, ret ++ gs.map bitsToNat) := by
  intro fuel
  induction fuel with
  | zero => intro X _ h; exact absurd h (Nat.not_lt_zero _)
  | succ fuel ih =>
    intro X ret hf hacc
    rw [Spec.Bech32.drain]
    by_cases ht : X.length ≥ t
    · obtain ⟨g, r, rfl, hg⟩ : ∃ g r, X = g ++ r ∧ g.length = t :=
        ⟨X.take t, X.drop t, (List.take_append_drop t X).symm, by rw [List.length_take]; omega⟩
      obtain ⟨hgv, hrv⟩ := low_bits_append acc g r hacc
      rw [hg] at hgv
      rw [List.length_append, hg] at hf
      obtain ⟨gs, R, hc, hR, hdr⟩ := ih r (ret ++ [bitsToNat g]) (by omega) hrv
      refine ⟨g :: gs, R, hc.cons hg, hR, ?_⟩
      rw [if_pos ht, List.length_append, hg, Nat.add_sub_cancel_left, Nat.shiftRight_eq_div_pow,
        Nat.and_two_pow_sub_one_eq_mod, hgv, hdr, List.append_assoc]
      rfl
    · exact ⟨[], X, ⟨rfl, nofun, by omega⟩, hacc, by rw [if_neg ht]; simp⟩

/-- The `for value in data` loop of `convertbits(data, f, t, ·)`, for any widths and any encoding
    `enc` of the inputs as `f` bits: started with the pending bits `pend`, it emits the `t`-bit
    groups of `pend` followed by all the input bits, and keeps the remainder in the low bits of `acc`. -/
theorem convertLoop_bits (f t : Nat) (h0 : 0 < t) (enc : Nat → Bits) (hlen : ∀ v, (enc v).length = f)
    (hval : ∀ v, v < 2 ^ f → bitsToNat (enc v) = v) (vs : List Nat) (hvs : ∀ v ∈ vs, v < 2 ^ f) :
    ∀ (acc : Nat) (pend : Bits) (ret : List Nat), pend.length < t →
      acc % 2 ^ pend.length = bitsToNat pend →
      ∃ acc' gs R, Chunked t (pend ++ (vs.map enc).flatten) gs R ∧ acc' % 2 ^ R.length = bitsToNat R ∧
        Spec.Bech32.convertLoop f t (2 ^ t - 1) (2 ^ (f + t - 1) - 1) vs acc pend.length ret =
          some (acc', R.length, ret ++ gs.map bitsToNat) := by
  induction vs with
  | nil =>
    intro acc pend ret hp hacc
    exact ⟨acc, [], pend, ⟨by simp, nofun, hp⟩, hacc, by simp [Spec.Bech32.convertLoop]⟩
  | cons v vs ih =>
    intro acc pend ret hp hacc
    obtain ⟨hv, hvs⟩ := List.forall_mem_cons.mp hvs
    have hpl : (pend ++ enc v).length = pend.length + f := by rw [List.length_append, hlen]
    have hpush := low_bits_push acc v (f + t - 1) pend (enc v) hacc (hval v hv) (by omega)
    rw [hlen] at hpush
    obtain ⟨gs, R', hc, hR', hdr⟩ := drain_bits t h0 _ (pend.length + f + 1) (pend ++ enc v) ret (by omega) hpush
    obtain ⟨acc', gs', R, hc', hR, hloop⟩ := ih hvs _ R' (ret ++ gs.map bitsToNat) hc.rem hR'
    refine ⟨acc', gs ++ gs', R, ?_, hR, ?_⟩
    · rw [List.map_cons, List.flatten_cons, ← List.append_assoc]
      exact hc.append hc'
    · rw [hpl] at hdr
      rw [Spec.Bech32.convertLoop, if_neg (by rw [Nat.shiftRight_eq_div_pow, Nat.div_eq_of_lt hv]; exact fun h => h rfl)]
      simp only [hdr, hloop, List.map_append, List.append_assoc]

end BtcVerif.Proofs.Bech32
