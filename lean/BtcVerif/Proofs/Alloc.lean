import BtcVerif.Model.Alloc
import BtcVerif.Proofs.NoPanic

/-! C17: the allocation bound of the wire decoders (`Bounded`, proved decoder by decoder with the
    combinators applied against the program), and `erase`: the instrumented decoders compute what the
    plain decoders compute. -/

namespace BtcVerif.Model
open BtcVerif BtcVerif.Parser BtcVerif.Model.CParser
open BtcVerif.Gen.Guards

/-- `Bounded p A B m`: `p` never panics; on success it consumed at least `m` bytes (a suffix of
    the input remains) and allocated at most `B` bytes per byte consumed; on failure it allocated at
    most `A` plus `B` bytes per byte of input available. -/
def Bounded {α} (p : CParser α) (A B m : Nat) : Prop :=
  ∀ s, (p s).1 ≠ .panic ∧
    (∀ a rest, (p s).1 = .ok (a, rest) →
      rest.length + m ≤ s.length ∧ (p s).2 ≤ B * (s.length - rest.length)) ∧
    ((p s).1 = .err → (p s).2 ≤ A + B * s.length)

theorem Bounded.mono {α} {p : CParser α} {A B m A' B' m' : Nat} (h : Bounded p A B m)
    (hA : A ≤ A') (hB : B ≤ B') (hm : m' ≤ m) : Bounded p A' B' m' := by
  intro s
  obtain ⟨h1, h2, h3⟩ := h s
  refine ⟨h1, fun a rest he => ?_, fun he => ?_⟩
  · obtain ⟨h4, h5⟩ := h2 a rest he
    exact ⟨by omega, Nat.le_trans h5 (Nat.mul_le_mul_right _ hB)⟩
  · exact Nat.le_trans (h3 he) (Nat.add_le_add hA (Nat.mul_le_mul_right _ hB))

theorem Bounded.pure {α} (a : α) (A B : Nat) : Bounded (Pure.pure a : CParser α) A B 0 := by
  intro s
  refine ⟨nofun, ?_, nofun⟩
  rintro _ _ ⟨⟩
  exact ⟨Nat.le_refl _, Nat.zero_le _⟩

theorem Bounded.fail {α} (A B m : Nat) : Bounded (CParser.fail : CParser α) A B m :=
  fun _ => ⟨nofun, nofun, fun _ => Nat.zero_le _⟩

theorem bind_ok {α β} {p : CParser α} {f : α → CParser β} {s rest : Bytes} {a : α} {c : Nat}
    (h : p s = (.ok (a, rest), c)) : (p >>= f) s = ((f a rest).1, c + (f a rest).2) := by
  rw [CParser.bind_def, h]

theorem Bounded.bind {α β} {p : CParser α} {f : α → CParser β} {A B m n : Nat}
    (hp : Bounded p A B m) (hf : ∀ a, Bounded (f a) A B n) : Bounded (p >>= f) A B (m + n) := by
  intro s
  obtain ⟨p1, p2, p3⟩ := hp s
  match hps : p s with
  | (.ok (a, rest), c) =>
    rw [hps] at p2
    obtain ⟨q1, q2⟩ := p2 a rest rfl
    obtain ⟨f1, f2, f3⟩ := hf a rest
    have hB : B * (s.length - rest.length) + B * rest.length = B * s.length := by
      rw [← Nat.mul_add, Nat.sub_add_cancel (Nat.le_of_add_right_le q1)]
    rw [bind_ok hps]
    refine ⟨f1, fun b rest2 he => ?_, fun he => ?_⟩
    · obtain ⟨g1, g2⟩ := f2 b rest2 he
      refine ⟨by omega, Nat.le_trans (Nat.add_le_add q2 g2) ?_⟩
      rw [← Nat.mul_add]
      exact Nat.mul_le_mul_left _ (by omega)
    · have g := f3 he
      show c + (f a rest).2 ≤ _
      omega
  | (.err, c) =>
    rw [CParser.bind_def, hps]
    exact ⟨nofun, nofun, fun _ => by rw [hps] at p3; exact p3 rfl⟩
  | (.panic, c) => rw [hps] at p1; exact absurd rfl p1

/-- the form to apply against a program whose bound `k` is given: the sum need only reach it -/
theorem Bounded.bind_le {α β} {p : CParser α} {f : α → CParser β} {A B m n k : Nat}
    (hp : Bounded p A B m) (hf : ∀ a, Bounded (f a) A B n) (hk : k ≤ m + n) : Bounded (p >>= f) A B k :=
  (hp.bind hf).mono (Nat.le_refl _) (Nat.le_refl _) hk

theorem Bounded.ite {α} (c : Prop) [Decidable c] {p q : CParser α} {A B m : Nat}
    (hp : c → Bounded p A B m) (hq : ¬ c → Bounded q A B m) : Bounded (if c then p else q) A B m := by
  split
  · exact hp ‹_›
  · exact hq ‹_›

theorem Bounded.total {α} {p : CParser α} {A B m : Nat} (h : Bounded p A B m) (s : Bytes) :
    (p s).2 ≤ A + B * s.length := by
  obtain ⟨h1, h2, h3⟩ := h s
  match hs : (p s).1 with
  | .ok (a, rest) =>
    exact Nat.le_trans (h2 a rest hs).2 (Nat.le_trans (Nat.mul_le_mul_left _ (Nat.sub_le _ _)) (Nat.le_add_left _ _))
  | .err => exact h3 hs
  | .panic => exact absurd hs h1

theorem Bounded.lift {α} (p : Parser α) (A B m : Nat) (hnp : NoPanic p)
    (hc : ∀ s a rest, p s = .ok (a, rest) → rest.length + m ≤ s.length) : Bounded (CParser.lift p) A B m :=
  fun s => ⟨hnp s, fun a rest h => ⟨hc s a rest h, Nat.zero_le _⟩, fun _ => Nat.zero_le _⟩

/-- `lift` is a monad homomorphism, so a plain reader written with `>>=` is bounded part by part -/
theorem lift_bind {α β} (p : Parser α) (f : α → Parser β) :
    CParser.lift (p >>= f) = CParser.lift p >>= fun a => CParser.lift (f a) := by
  funext s
  simp only [CParser.bind_def, Parser.bind_def, CParser.lift]
  cases p s <;> rfl

theorem lift_pure {α} (a : α) : CParser.lift (Pure.pure a : Parser α) = Pure.pure a := rfl

theorem bounded_readN (n A B : Nat) : Bounded (CParser.lift (readN n)) A B n :=
  Bounded.lift _ A B n (noPanic_readN n) (fun _ _ _ h => Nat.le_of_eq (length_of_readN h))

theorem bounded_readLE (k A B : Nat) : Bounded (CParser.lift (readLE k)) A B k :=
  Bounded.lift _ A B k (noPanic_readLE k) (fun s a rest h => by
    obtain ⟨rfl, _⟩ := readLE_ok h
    rw [List.length_append, leBytes_length]; omega)

theorem bounded_decVarint (A B : Nat) : Bounded (CParser.lift decVarint) A B 1 :=
  Bounded.lift _ A B 1 noPanic_decVarint (fun s a rest h => by
    obtain ⟨_, pre, rfl, hp, _⟩ := decVarint_ok h
    rw [List.length_append]; omega)

/-- reading `n` bytes at a cost that the `n` bytes pay for when they arrive -/
theorem bounded_readN_cost (n : Nat) (cost : Bytes → Nat) (A B : Nat)
    (hok : ∀ s, n ≤ s.length → cost s ≤ B * n) (herr : ∀ s, cost s ≤ A + B * s.length) :
    Bounded (fun s => (readN n s, cost s)) A B 0 := by
  intro s
  refine ⟨readN_ne_panic n s, fun a rest h => ?_, fun _ => herr s⟩
  have := length_of_readN h
  refine ⟨by omega, ?_⟩
  rw [show s.length - rest.length = n by omega]
  exact hok s (by omega)

theorem bounded_allocRead (n A B : Nat) (hn : n ≤ A) (hB : 1 ≤ B) : Bounded (allocRead n) A B 0 :=
  bounded_readN_cost n (fun _ => n) A B (fun _ _ => Nat.le_mul_of_pos_left n hB)
    (fun _ => Nat.le_trans hn (Nat.le_add_right _ _))

theorem bounded_boundedRead (n A B : Nat) (hA : 131072 ≤ A) (hB : 8 ≤ B) : Bounded (boundedRead n) A B 0 :=
  bounded_readN_cost n (fun s => if n ≤ s.length then 8 * n else 8 * s.length + 131072) A B
    (fun s h => by rw [if_pos h]; exact Nat.mul_le_mul_right _ hB)
    (fun s => by
      have hBs : 8 * s.length ≤ B * s.length := Nat.mul_le_mul_right _ hB
      split
      · exact Nat.le_trans (Nat.mul_le_mul_left 8 ‹_›) (Nat.le_trans hBs (Nat.le_add_left _ _))
      · rw [Nat.add_comm]; exact Nat.add_le_add hA hBs)

/-- a charge of `w` bytes that the following parser's minimum consumption `m` pays for at `Bw` bytes
    per byte consumed -/
theorem Bounded.charge {α} (w : Nat) {p : CParser α} {A A' B B' Bw m m' : Nat}
    (hp : Bounded p A B m) (hA : w + A ≤ A') (hB : B + Bw ≤ B') (hw : w ≤ Bw * m) (hm : m' ≤ m) :
    Bounded (CParser.charge w >>= fun _ => p) A' B' m' := by
  intro s
  obtain ⟨p1, p2, p3⟩ := hp s
  refine ⟨p1, fun a rest he => ?_, fun he => ?_⟩
  · obtain ⟨q1, q2⟩ := p2 a rest he
    have hd : m ≤ s.length - rest.length := by omega
    refine ⟨by omega, Nat.le_trans (Nat.add_le_add (Nat.le_trans hw (Nat.mul_le_mul_left _ hd)) q2) ?_⟩
    rw [← Nat.add_mul, Nat.add_comm]
    exact Nat.mul_le_mul_right _ hB
  · refine Nat.le_trans (Nat.add_le_add_left (p3 he) w) ?_
    rw [← Nat.add_assoc]
    exact Nat.add_le_add hA (Nat.mul_le_mul_right _ (Nat.le_trans (Nat.le_add_right _ _) hB))

theorem bounded_creadMany {α} {p : CParser α} {A B m : Nat} (hp : Bounded p A B m) (k : Nat) :
    Bounded (creadMany p k) A B (k * m) := by
  induction k with
  | zero => exact (Bounded.pure [] A B).mono (Nat.le_refl _) (Nat.le_refl _) (Nat.le_of_eq (Nat.zero_mul m))
  | succ k ih =>
    exact .bind_le hp (fun x => .bind ih fun xs => .pure (x :: xs) A B) (by rw [Nat.succ_mul]; omega)

/-- a counted vector: `make([]*T, n)` at `c` bytes per element after the check `n ≤ N`, then `n` elements read
    by `p`, then `f`. Each element consumes at least `mp` bytes, which pay for its `c` bytes at `Bw` per byte;
    before they arrive the slice costs at most `c * N`. -/
theorem bounded_counted {α β} {p : CParser α} {f : List α → CParser β} {A B A' B' Ap Bp mp mf n : Nat}
    (c N Bw : Nat) (hp : Bounded p Ap Bp mp) (hf : ∀ xs, Bounded (f xs) A B mf) (hn : n ≤ N)
    (hA : Ap ≤ A ∧ c * N + A ≤ A') (hB : Bp ≤ B ∧ B + Bw ≤ B') (hc : c ≤ Bw * mp) :
    Bounded (charge (c * n) >>= fun _ => creadMany p n >>= f) A' B' mf := by
  refine .charge (c * n) (.bind (bounded_creadMany (hp.mono hA.1 hB.1 (Nat.le_refl _)) n) hf)
    (Nat.le_trans (Nat.add_le_add_right (Nat.mul_le_mul_left c hn) A) hA.2) hB.2 ?_ (Nat.le_add_left _ _)
  calc c * n ≤ Bw * mp * n := Nat.mul_le_mul_right n hc
    _ = Bw * (n * mp) := by rw [Nat.mul_assoc, Nat.mul_comm mp]
    _ ≤ Bw * (n * mp + mf) := Nat.mul_le_mul_left _ (Nat.le_add_right _ _)

theorem bounded_tail_charge {α} (w : Nat) (a : α) {A B : Nat} :
    Bounded (charge w >>= fun _ => (Pure.pure a : CParser α)) (A + w) B 0 → True := fun _ => trivial

/-! The decoders. In `.charge w (A := A) (B := B) (Bw := Bw) (m := m)` the rest of the program is `Bounded … A B m`:
    `m` is the least number of bytes it consumes, `Bw * m ≥ w` lets those bytes pay for the charge, and the
    result has failure constant `w + A` and rate `B + Bw`. `.fail _ _ k` stands where a limit check fails; `k`
    is what the other branch still consumes at least. -/

theorem bounded_decPrevOut (A B : Nat) : Bounded (CParser.lift decPrevOut) A B 36 := by
  simp only [decPrevOut, lift_bind, lift_pure]
  exact .bind (bounded_readN 32 A B) fun _ => .bind (bounded_readLE 4 A B) fun _ => .pure _ A B

theorem bounded_sniff (A B : Nat) : Bounded (CParser.lift sniffSegwit) A B 0 :=
  Bounded.lift _ A B 0 noPanic_sniff fun s b rest h => by
    unfold sniffSegwit at h
    split at h
    · rename_i flag r h1
      obtain ⟨rfl, _⟩ := readN_ok h1
      injection h with h; injection h with _ h
      subst h
      split <;> simp
    · cases h
    · cases h

theorem bounded_decHeader (A B : Nat) : Bounded (CParser.lift decHeader) A B 80 := by
  simp only [decHeader, lift_bind, lift_pure]
  exact .bind (bounded_readLE 4 A B) fun _ => .bind (bounded_readN 32 A B) fun _ =>
    .bind (bounded_readN 32 A B) fun _ => .bind (bounded_readLE 4 A B) fun _ =>
    .bind (bounded_readLE 4 A B) fun _ => .bind (bounded_readLE 4 A B) fun _ => .pure _ A B

/-- 41 = 36 + 1 + 0 + 4 bytes at least; they pay for the 96-byte object at 3 per byte; the script is ≤ 1 000 000 -/
theorem bounded_cdecTxIn : Bounded cdecTxIn 1000096 4 41 := by
  refine .charge objInput (A := 1000000) (B := 1) (Bw := 3) (m := 41) ?_ (by decide) (by decide) (by decide) (by decide)
  exact .bind (bounded_decPrevOut _ _) fun p => .bind (bounded_decVarint _ _) fun n =>
    .ite _ (fun _ => .fail _ _ _) fun hg =>
      .bind (bounded_allocRead n _ _ (by simpa [tx_inputFromReader_0] using hg) (Nat.le_refl _)) fun s =>
        .bind (bounded_readLE 4 _ _) fun q => .pure _ _ _

/-- 9 = 8 + 1 + 0 bytes at least; they pay for the 48-byte object at 6 per byte -/
theorem bounded_cdecTxOut : Bounded cdecTxOut 1000048 7 9 := by
  refine .charge objOutput (A := 1000000) (B := 1) (Bw := 6) (m := 9) ?_ (by decide) (by decide) (by decide) (by decide)
  exact .bind (bounded_readLE 8 _ _) fun v => .bind (bounded_decVarint _ _) fun n =>
    .ite _ (fun _ => .fail _ _ _) fun hg =>
      .bind (bounded_allocRead n _ _ (by simpa [tx_outputFromReader_0] using hg) (Nat.le_refl _)) fun s => .pure _ _ _

theorem bounded_cdecChunks (k size : Nat) : Bounded (cdecChunks k size) 131072 8 k := by
  induction k generalizing size with
  | zero => exact .pure _ _ _
  | succ k ih =>
    exact .bind_le (bounded_decVarint _ _) (fun n => .ite _ (fun _ => .fail _ _ _) fun _ =>
      .bind (bounded_boundedRead n _ _ (Nat.le_refl _) (Nat.le_refl _)) fun c =>
        .bind (ih _) fun cs => .pure _ _ _) (by omega)

/-- 371072 = 24 · 10000 slice headers + 131072 of one failing chunk read; 32 = 8 + 24 -/
theorem bounded_cdecWitness : Bounded cdecWitness 371072 32 1 :=
  .bind (bounded_decVarint _ _) fun n => .ite _ (fun _ => .fail _ _ _) fun hg =>
    have hn : n ≤ 10000 := by simpa [tx_witnessFromReader_0] using hg
    .charge (24 * n) (bounded_cdecChunks n 0) (Bw := 24) (by omega) (by decide) (Nat.le_refl _) (Nat.zero_le _)

/-- the failure constant of a transaction: what can be allocated before the input backing it has arrived,
    160 (the `Tx` object) + 8 · 24390 + 8 · 111111 (the two pointer slices at their limits) + 1000096, the largest
    failure constant of the three sections (inputs 1000096, outputs 1000048, witnesses 24 · 24390 + 371072);
    a block adds its pointer slice, 8 · 12195 -/
def txAllocConst : Nat := 2084264
def blockAllocConst : Nat := 2181824

/-- the three sections are counted vectors; 74 = 56 + 1 + 1 + 16, the rates of the witness section, the two
    pointer slices and the `Tx` object (160 ≤ 16 · 10) -/
theorem bounded_cdecTx : Bounded cdecTx txAllocConst 74 10 := by
  refine .charge objTx (A := 2084104) (B := 58) (Bw := 16) (m := 10) ?_ (by decide) (by decide) (by decide) (by decide)
  refine .bind_le (bounded_readLE 4 _ _) (fun version => .bind (bounded_sniff _ _) fun hasWitness =>
    .bind (bounded_decVarint _ _) fun nIn => .ite _ (fun _ => .fail _ _ 5) fun hg => ?_) (by decide)
  have hn : nIn ≤ 24390 := by simpa [tx_FromReader_1] using hg
  refine bounded_counted 8 24390 1 (A := 1888984) (B := 57) bounded_cdecTxIn (fun ins => ?_) hn
    (by decide) (by decide) (by decide)
  refine .bind (bounded_decVarint _ _) fun nOut => .ite _ (fun _ => .fail _ _ 4) fun hg2 => ?_
  have hn2 : nOut ≤ 111111 := by simpa [tx_FromReader_3] using hg2
  refine bounded_counted 8 111111 1 (A := 1000096) (B := 56) bounded_cdecTxOut (fun outs => ?_) hn2
    (by decide) (by decide) (by decide)
  refine .bind (.ite _ (fun _ => ?_) fun _ => .pure none _ _) fun wits =>
    .bind (bounded_readLE 4 _ _) fun lock => .pure _ _ _
  exact bounded_counted 24 24390 24 (A := 371072) (B := 32) bounded_cdecWitness (fun ws => .pure _ _ _) hn
    (by decide) (by decide) (by decide)

theorem bounded_cdecBlock : Bounded cdecBlock blockAllocConst 75 81 :=
  .bind (bounded_decHeader _ _) fun hdr => .bind (bounded_decVarint _ _) fun n =>
    .ite _ (fun _ => .fail _ _ _) fun hg =>
      bounded_counted 8 12195 1 (A := txAllocConst) (B := 74) bounded_cdecTx (fun txs => .pure _ _ _)
        (by simpa [blocks_fromReader_0] using hg) (by decide) (by decide) (by decide)

/-! **C17 (allocation)**: whatever the input, decoding a transaction allocates at most a fixed
    constant (< 2.1 MB) plus 74 bytes per input byte; a block, < 2.2 MB plus 75 bytes per input byte -/

theorem cdecTx_alloc_le (s : Bytes) : (cdecTx s).2 ≤ txAllocConst + 74 * s.length := bounded_cdecTx.total s

theorem cdecBlock_alloc_le (s : Bytes) : (cdecBlock s).2 ≤ blockAllocConst + 75 * s.length :=
  bounded_cdecBlock.total s

/-! ### the instrumented decoders compute what the plain decoders compute -/

def erase {α} (p : CParser α) : Parser α := fun s => (p s).1

theorem erase_bind {α β} (p : CParser α) (f : α → CParser β) :
    erase (p >>= f) = (erase p >>= fun a => erase (f a)) := by
  funext s
  simp only [erase, CParser.bind_def, Parser.bind_def]
  rcases p s with ⟨_ | _ | _, c⟩ <;> rfl

@[simp] theorem erase_lift {α} (p : Parser α) : erase (CParser.lift p) = p := rfl
@[simp] theorem erase_pure {α} (a : α) : erase (Pure.pure a : CParser α) = (Pure.pure a : Parser α) := rfl
@[simp] theorem erase_fail {α} : erase (CParser.fail : CParser α) = (Parser.fail : Parser α) := rfl
@[simp] theorem erase_allocRead (n : Nat) : erase (allocRead n) = readN n := rfl
@[simp] theorem erase_boundedRead (n : Nat) : erase (boundedRead n) = readN n := rfl
theorem erase_charge (w : Nat) : erase (charge w) = Pure.pure () := rfl
theorem erase_ite {α} (c : Prop) [Decidable c] (p q : CParser α) :
    erase (if c then p else q) = if c then erase p else erase q := by split <;> rfl

theorem erase_creadMany {α} (p : CParser α) (k : Nat) : erase (creadMany p k) = readMany (erase p) k := by
  induction k with
  | zero => rfl
  | succ k ih => simp only [creadMany, readMany, erase_bind, ih, erase_pure]

theorem erase_cdecTxIn : erase cdecTxIn = decTxIn := by
  simp only [cdecTxIn, decTxIn, erase_bind, erase_charge, pure_bind, erase_lift, erase_ite, erase_fail,
    erase_allocRead, erase_pure]

theorem erase_cdecTxOut : erase cdecTxOut = decTxOut := by
  simp only [cdecTxOut, decTxOut, erase_bind, erase_charge, pure_bind, erase_lift, erase_ite, erase_fail,
    erase_allocRead, erase_pure]

theorem erase_cdecChunks (k size : Nat) : erase (cdecChunks k size) = decChunks k size := by
  induction k generalizing size with
  | zero => rfl
  | succ k ih =>
    simp only [cdecChunks, decChunks, erase_bind, erase_lift, erase_ite, erase_fail, erase_boundedRead, ih,
      erase_pure]

theorem erase_cdecWitness : erase cdecWitness = decWitness := by
  simp only [cdecWitness, decWitness, erase_bind, erase_charge, pure_bind, erase_lift, erase_ite, erase_fail,
    erase_cdecChunks]

theorem erase_cdecTx : erase cdecTx = decTx := by
  simp only [cdecTx, decTx, erase_bind, erase_charge, pure_bind, erase_lift, erase_ite, erase_fail,
    erase_creadMany, erase_cdecTxIn, erase_cdecTxOut, erase_cdecWitness, erase_pure]

theorem erase_cdecBlock : erase cdecBlock = decBlock := by
  simp only [cdecBlock, decBlock, erase_bind, erase_charge, pure_bind, erase_lift, erase_ite, erase_fail,
    erase_creadMany, erase_cdecTx, erase_pure]

end BtcVerif.Model
