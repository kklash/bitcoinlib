/-
  Every size the library reports is the length of what the encoder emits (the weight and virtual-size theorems of
  `Props/C02.lean` rest on this); what the two identifiers of a transaction are computed from.
-/
import BtcVerif.Proofs.Block

namespace BtcVerif.Model
open BtcVerif BtcVerif.Parser
open BtcVerif.Gen.Guards

theorem encMany_length {α} (enc : α → Bytes) (sz : α → Nat) (xs : List α)
    (h : ∀ x ∈ xs, sz x = (enc x).length) : ((xs.map sz).sum) = (encMany enc xs).length := by
  rw [encMany, List.length_flatten, List.map_map]
  exact congrArg List.sum (List.map_congr_left h)

theorem encPrevOut_length (p : PrevOut) (h : p.hash.length = 32) : (encPrevOut p).length = 36 := by
  simp [encPrevOut, h]

theorem sizeTxIn_eq (i : TxIn) (h : i.prev.hash.length = 32) : sizeTxIn i = (encTxIn i).length := by
  simp [sizeTxIn, encTxIn, encPrevOut_length _ h, varintSize_eq_length]; omega

theorem sizeTxOut_eq (o : TxOut) : sizeTxOut o = (encTxOut o).length := by
  simp [sizeTxOut, encTxOut, varintSize_eq_length]; omega

theorem sizeWitness_eq (w : Witness) : sizeWitness w = (encWitness w).length := by
  rw [sizeWitness, encWitness, List.length_append, varintSize_eq_length,
    encMany_length encChunk (fun c => varintSize c.length + c.length) w fun c _ => by
      rw [encChunk, List.length_append, varintSize_eq_length]]
  rfl

/-- `Tx.size(w)` adds up, term by term, the lengths of what `Tx.serialize(w)` appends -/
theorem sizeTx_eq_length (tx : Tx) (w : Bool) (bs : Bytes)
    (hin : ∀ i ∈ tx.inputs, WFPrevOut i.prev) (he : encTx tx w = .ok bs) : sizeTx tx w = bs.length := by
  unfold encTx at he
  split at he
  · cases he
  · cases he
    -- the tests of `size` are those of `serialize`
    simp only [sizeTx, show @tx_Tx_size_0 = @tx_Tx_serialize_1 from rfl, show @tx_Tx_size_1 = @tx_Tx_serialize_2 from rfl,
      List.length_append, leBytes_length, apply_ite List.length, List.length_nil, show segwitFlag.length = 2 from rfl,
      varintSize_eq_length,
      encMany_length encTxIn sizeTxIn _ fun i hi => sizeTxIn_eq i (hin i hi).1,
      encMany_length encTxOut sizeTxOut _ fun o _ => sizeTxOut_eq o,
      encMany_length encWitness sizeWitness _ fun x _ => sizeWitness_eq x]
    omega

theorem sizeTxs_eq_length : ∀ (ts : List Tx) (body : Bytes), (∀ t ∈ ts, ∀ i ∈ t.inputs, WFPrevOut i.prev) →
    encTxs ts = .ok body → (ts.map fun t => sizeTx t true).sum = body.length
  | [], _, _, h => by cases h; rfl
  | t :: ts, body, hwf, h => by
    obtain ⟨a, ha, h⟩ := Outcome.bind_eq_ok.mp h
    obtain ⟨c, hc, h⟩ := Outcome.bind_eq_ok.mp h
    cases h
    rw [List.map_cons, List.sum_cons, List.length_append, sizeTx_eq_length t true a (hwf t List.mem_cons_self) ha,
      sizeTxs_eq_length ts c (fun x hx => hwf x (List.mem_cons_of_mem _ hx)) hc]

theorem vsizeTx_eq (tx : Tx) : vsizeTx tx = (weightTx tx + 3) / 4 := rfl

theorem txid_ignores_witness (tx : Tx) (ws : Option (List Witness))
    (h1 : canSerialize tx = true) (h2 : canSerialize { tx with witnesses := ws } = true) :
    encTx { tx with witnesses := ws } false = encTx tx false := by
  rw [encTx_false h1, encTx_false h2]

theorem wtxid_eq_txid_of_no_witness (tx : Tx) (h : tx.witnesses = none) :
    encTx tx true = encTx tx false := by
  have hc : canSerialize tx = true := (canSerialize_iff tx).mpr fun ws hws => by rw [h] at hws; cases hws
  obtain ⟨v, ins, outs, wits, lock⟩ := tx
  cases h
  rw [encTx_of_canSerialize hc, encTx_false hc, ite_self]

end BtcVerif.Model
