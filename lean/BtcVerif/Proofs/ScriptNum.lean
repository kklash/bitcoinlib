/-
  Script numbers: `PushNumber` against `CScriptNum::serialize` / `push_int64`, the decoding loop of
  `ReadNumber` against `CScriptNum::set_vch`.  Both sides are read through the last byte of the
  string: `pre ++ [b]` has magnitude `le pre + 256 ^ pre.length * stripB b` and the sign bit of `b`.
-/
import BtcVerif.Proofs.Script
import BtcVerif.Proofs.Digits
namespace BtcVerif.Proofs.Script
open BtcVerif BtcVerif.Model BtcVerif.Parser
open BtcVerif.Gen BtcVerif.Gen.Guards
open BtcVerif.Spec.Script (magnitudeBytes scriptNumBytes scriptNum scriptNumValue lenWidth)

theorem magBytesFuel_eq (fuel m : Nat) (h : m < 256 ^ fuel) : magBytesFuel fuel m = magnitudeBytes m := by
  induction fuel generalizing m with
  | zero =>
    have : m = 0 := by simp at h; omega
    subst this
    rw [magnitudeBytes]; rfl
  | succ fuel ih =>
    rw [magnitudeBytes]
    simp only [magBytesFuel, script_PushNumber_4]
    by_cases h0 : m = 0
    · simp [h0]
    · have : m > 0 := by omega
      simp only [this, decide_true, if_true, h0, if_false]
      rw [ih (m / 256) (by rw [Nat.div_lt_iff_lt_mul (by decide)]; rw [Nat.pow_succ] at h; exact h)]

theorem magBytes_eq (m : Nat) (h : m < 2 ^ 64) : magBytes m = magnitudeBytes m :=
  magBytesFuel_eq 8 m (by simpa using h)

theorem magBytesFuel_length (fuel m : Nat) : (magBytesFuel fuel m).length ≤ fuel := by
  induction fuel generalizing m with
  | zero => simp [magBytesFuel]
  | succ fuel ih =>
    simp only [magBytesFuel]
    split
    · simp only [List.length_cons]; have := ih (m / 256); omega
    · simp

theorem magnitudeBytes_length (m : Nat) (h : m < 2 ^ 64) : (magnitudeBytes m).length ≤ 8 := by
  rw [← magBytes_eq m h]
  exact magBytesFuel_length 8 m

theorem magnitudeBytes_concat (m : Nat) (h : m ≠ 0) : ∃ pre last, magnitudeBytes m = pre ++ [last] := by
  rcases List.eq_nil_or_concat (magnitudeBytes m) with e | ⟨pre, last, e⟩
  · rw [magnitudeBytes, if_neg h] at e
    cases e
  · exact ⟨pre, last, by rw [e, List.concat_eq_append]⟩

/-- `uint64(n)`, negated when `n < 0`, is `|n|` for every int64 -/
theorem magnitude_eq (n : Int) (hlo : -(2 ^ 63 : Int) ≤ n) (hhi : n < 2 ^ 63) :
    (if n < 0 then wrapU 18446744073709551616 (-((wrapU 18446744073709551616 n : Nat) : Int))
      else wrapU 18446744073709551616 n) = n.natAbs := by
  unfold wrapU
  split <;> omega

theorem or128 : ∀ x, x < 128 → x ||| 128 = x + 128 := by decide +kernel

/-- push.go:148 `result[len(result)-1]&0x80 != 0`: the top bit of the last magnitude byte is taken -/
theorem highbit_guard (b : UInt8) :
    script_PushNumber_5 (result_at_len_result____1 := b.toNat) = decide (b.toNat ≥ 0x80) := by
  simp only [script_PushNumber_5, ne_eq, (and128 _ b.toNat_lt).1, Nat.not_lt, ge_iff_le]

theorem or_0x80 (b : UInt8) (h : b.toNat < 128) : b ||| 0x80 = UInt8.ofNat (b.toNat + 0x80) := by
  apply UInt8.toNat_inj.mp
  rw [UInt8.toNat_or]
  have : (0x80 : UInt8).toNat = 128 := by decide
  rw [this, or128 _ h]
  simp [UInt8.toNat_ofNat']; omega

def stripB (b : UInt8) : Nat := if b.toNat ≥ 128 then b.toNat - 128 else b.toNat

theorem stripB_le (b : UInt8) : stripB b ≤ 127 := by
  unfold stripB; have := b.toNat_lt; split <;> omega

theorem stripB_add (b : UInt8) : b.toNat = stripB b + (if b.toNat ≥ 128 then 128 else 0) := by
  unfold stripB; split <;> omega

/-- `scriptNumValue.le`, the little-endian value `CScriptNum::set_vch` starts from (not `≤`) -/
abbrev le := scriptNumValue.le

theorem le_nil : le [] = 0 := rfl
theorem le_cons (b : UInt8) (r : Bytes) : le (b :: r) = b.toNat + 256 * le r := rfl

theorem le_eq_leNat : ∀ bs : Bytes, le bs = leNat bs
  | [] => rfl
  | b :: r => congrArg (b.toNat + 256 * ·) (le_eq_leNat r)

theorem le_append_single (xs : Bytes) (b : UInt8) : le (xs ++ [b]) = le xs + b.toNat * 256 ^ xs.length := by
  rw [le_eq_leNat, le_eq_leNat, Digits.leNat_append, Nat.mul_comm]
  simp [leNat]

theorem le_lt (xs : Bytes) : le xs < 256 ^ xs.length :=
  le_eq_leNat xs ▸ leNat_lt xs

theorem le_magnitudeBytes (m : Nat) : le (magnitudeBytes m) = m := by
  induction m using Nat.strongRecOn with
  | _ m ih =>
    rw [magnitudeBytes]
    by_cases h : m = 0
    · simp [h, le_nil]
    · simp only [h, if_false, le_cons]
      rw [ih (m / 256) (by omega)]
      have : (UInt8.ofNat (m % 256)).toNat = m % 256 := UInt8.toNat_ofNat_of_lt' (Nat.mod_lt _ (by decide))
      rw [this]; omega

def signed (neg : Bool) (mag : Nat) : Int := if neg then -(mag : Int) else mag

theorem natAbs_signed (neg : Bool) (mag : Nat) : (signed neg mag).natAbs = mag := by
  cases neg <;> simp [signed]

theorem signed_natAbs (n : Int) : signed (decide (n < 0)) n.natAbs = n := by
  by_cases h : n < 0
  · rw [signed, if_pos (decide_eq_true h)]; omega
  · rw [signed, if_neg (by simpa using h)]; omega

theorem scriptNumValue_append_single (pre : Bytes) (b : UInt8) :
    scriptNumValue (pre ++ [b]) =
      signed (decide (b.toNat ≥ 128)) (le pre + 256 ^ pre.length * stripB b) := by
  simp only [signed, decide_eq_true_eq]
  unfold scriptNumValue
  simp only [List.getLast?_append, List.getLast?_singleton, Option.some_or, List.length_append,
    List.length_singleton, Nat.add_sub_cancel]
  show (if b.toNat ≥ 128 then -((le (pre ++ [b]) : Int) - 0x80 * 256 ^ pre.length) else (le (pre ++ [b]) : Int)) = _
  rw [le_append_single]
  have hb := stripB_add b
  have hpow : ((0x80 : Int) * (256 : Int) ^ pre.length) = ((128 * 256 ^ pre.length : Nat) : Int) := by
    simp [Int.natCast_mul, Int.natCast_pow]
  rw [hpow]
  by_cases h : b.toNat ≥ 128
  · simp only [h, if_true] at hb ⊢
    rw [hb, Nat.add_mul, Nat.mul_comm (256 ^ pre.length)]
    generalize 256 ^ pre.length = P
    generalize stripB b * P = Q
    omega
  · simp only [h, if_false] at hb ⊢
    rw [hb, Nat.add_zero, Nat.mul_comm (256 ^ pre.length)]

/-- `CScriptNum::serialize` of a non-zero number: the magnitude, with the sign in the top bit of the
    last byte, which is an extra byte exactly when the magnitude's own top bit is taken -/
theorem scriptNumBytes_shape (n : Int) (h : n ≠ 0) :
    ∃ pre b, scriptNumBytes n = pre ++ [b] ∧ le pre + 256 ^ pre.length * stripB b = n.natAbs ∧
      (b.toNat ≥ 128 ↔ n < 0) ∧ pre.length ≤ (magnitudeBytes n.natAbs).length := by
  obtain ⟨pre, last, hm⟩ := magnitudeBytes_concat n.natAbs (by omega)
  have hle := le_magnitudeBytes n.natAbs
  rw [hm, le_append_single, Nat.mul_comm] at hle
  rw [scriptNumBytes, if_neg h, hm]
  simp only [List.getLast?_concat, List.dropLast_concat, List.length_append, List.length_singleton]
  by_cases hb : last.toNat ≥ 0x80
  · rw [if_pos hb]
    refine ⟨pre ++ [last], _, rfl, ?_, ?_, by simp⟩
    · rw [le_append_single, Nat.mul_comm, hle]
      split <;> simp [stripB]
    · split <;> simp [*]
  · rw [if_neg hb]
    by_cases hn : n < 0
    · have hlast : (UInt8.ofNat (last.toNat + 0x80)).toNat = last.toNat + 128 :=
        UInt8.toNat_ofNat_of_lt' (show _ < 256 by omega)
      rw [if_pos hn]
      refine ⟨pre, _, rfl, ?_, by rw [hlast]; omega, Nat.le_succ _⟩
      rw [stripB, hlast, if_pos (by omega), Nat.add_sub_cancel, hle]
    · rw [if_neg hn]
      refine ⟨pre, last, rfl, ?_, by omega, Nat.le_succ _⟩
      rw [stripB, if_neg hb, hle]

theorem scriptNumBytes_length (n : Int) (hlo : -(2 ^ 63 : Int) ≤ n) (hhi : n < 2 ^ 63) (h0 : n ≠ 0) :
    1 ≤ (scriptNumBytes n).length ∧ (scriptNumBytes n).length ≤ 9 := by
  obtain ⟨pre, b, e, -, -, hl⟩ := scriptNumBytes_shape n h0
  have := magnitudeBytes_length n.natAbs (by omega)
  rw [e, List.length_append, List.length_singleton]
  omega

theorem pushNumber_eq_spec (n : Int) (hlo : -(2 ^ 63 : Int) ≤ n) (hhi : n < 2 ^ 63) :
    pushNumber n = .ok (scriptNum n) := by
  by_cases c0 : n = -1
  · subst c0; rfl
  by_cases c1 : n = 0
  · subst c1; rfl
  have g0 : script_PushNumber_0 (n := n) = false := decide_eq_false c0
  have g1 : script_PushNumber_1 (n := n) = false := decide_eq_false c1
  rw [pushNumber, scriptNum, g0, g1, if_neg (by decide), if_neg (by decide), if_neg c0, if_neg c1]
  by_cases c2 : 1 ≤ n ∧ n ≤ 16
  · have g2 : script_PushNumber_2 (n := n) = true := by simp [script_PushNumber_2, c2]
    have e : wrapU 256 (n + (constants_OP_1 : Int) - 1) = 0x50 + n.toNat := by
      simp only [constants_OP_1, wrapU]; omega
    rw [g2, if_pos rfl, if_pos c2, e]
  · have g2 : script_PushNumber_2 (n := n) = false := by
      simp only [script_PushNumber_2, ge_iff_le, Bool.and_eq_false_iff, decide_eq_false_iff_not]; omega
    rw [g2, if_neg (by decide), if_neg c2]
    simp only [script_PushNumber_3, script_PushNumber_6, script_PushNumber_7, decide_eq_true_eq]
    obtain ⟨-, l9⟩ := scriptNumBytes_length n hlo hhi c1
    rw [magnitude_eq n hlo hhi, magBytes_eq _ (by omega), ← pushData_eq_spec _ (by omega)]
    obtain ⟨pre, last, hm⟩ := magnitudeBytes_concat n.natAbs (by omega)
    -- both sides are `pushData` of a string chosen by the last magnitude byte and the sign
    rw [scriptNumBytes, if_neg c1, hm]
    simp only [List.getLast?_concat, List.dropLast_concat, highbit_guard, decide_eq_true_eq]
    by_cases hb : last.toNat ≥ 0x80
    · rw [if_pos hb, if_pos hb]
    · rw [if_neg hb, if_neg hb]
      by_cases hn : n < 0
      · rw [if_pos hn, if_pos hn, or_0x80 last (by omega)]
      · rw [if_neg hn, if_neg hn]

/-- push.go:201 `i == len(numBytes)-1 && byteValue&0x80 != 0`: the sign bit is looked for in the last
    byte only -/
theorem signTest_eq (i len : Nat) (b : UInt8) :
    script_ReadNumber_5 (i := (i : Int)) (len_numBytes := len) (byteValue := b.toNat)
      = (decide (i + 1 = len) && decide (b.toNat ≥ 128)) := by
  have e : ((i : Int) = (len : Int) - 1) ↔ i + 1 = len := by omega
  simp only [script_ReadNumber_5, e, ne_eq, (and128 _ b.toNat_lt).1, Nat.not_lt, ge_iff_le]

/-- push.go:205 `i == 8`: a ninth byte may only carry the sign -/
theorem indexEight_eq (i : Nat) : script_ReadNumber_6 (i := (i : Int)) = decide (i = 8) := by
  have e : ((i : Int) = 8) ↔ i = 8 := by omega
  simp only [script_ReadNumber_6, e]

theorem or_shift (mag b i : Nat) (hm : mag < 256 ^ i) (hb : b < 256) (hi : i ≤ 7) :
    mag ||| ((b <<< (8 * i)) % 18446744073709551616) = mag + b * 256 ^ i := by
  have e : 2 ^ (8 * i) = 256 ^ i := Nat.pow_mul 2 8 i
  have h1 : b <<< (8 * i) = b * 256 ^ i := e ▸ Nat.shiftLeft_eq _ _
  have h2 : b * 256 ^ i < 18446744073709551616 := by
    have : 256 ^ i ≤ 256 ^ 7 := Nat.pow_le_pow_right (by decide) hi
    calc b * 256 ^ i ≤ 255 * 256 ^ 7 := Nat.mul_le_mul (by omega) this
      _ < 18446744073709551616 := by decide
  rw [Nat.mod_eq_of_lt (by rw [h1]; exact h2)]
  rw [Nat.or_comm, shl_or _ _ _ (e ▸ hm), e, Nat.add_comm]

theorem sub128 (b : UInt8) (h : b.toNat ≥ 128) : (b - 0x80).toNat = b.toNat - 128 := by
  have : (0x80 : UInt8) ≤ b := by
    rw [UInt8.le_iff_toNat_le]; exact h
  rw [UInt8.toNat_sub_of_le _ _ this]; rfl

/-- the byte the loop works with, when it sits at index `len - 1` -/
theorem lastByte_toNat (b : UInt8) :
    (if decide (b.toNat ≥ 128) = true then b - 0x80 else b).toNat = stripB b := by
  unfold stripB
  by_cases h : b.toNat ≥ 128
  · simp only [h, decide_true, if_true]; exact sub128 b h
  · simp only [h, decide_false, Bool.false_eq_true, if_false]

/-- the loop over a prefix that contains neither the last byte of the string (the only place where the
    sign test fires) nor index 8; `mag < 256 ^ i` keeps `|||` with the next shifted byte an addition -/
theorem numLoop_prefix (len : Nat) (tl : Bytes) (neg : Bool) :
    ∀ (pre : Bytes) (i mag : Nat), i + pre.length ≤ 8 → i + pre.length < len → mag < 256 ^ i →
      numLoop len i (pre ++ tl) neg mag =
        numLoop len (i + pre.length) tl neg (mag + 256 ^ i * le pre) := by
  intro pre
  induction pre with
  | nil => intro i mag _ _ _; simp [le_nil]
  | cons a pre ih =>
    intro i mag h8 hlast hm
    simp only [List.length_cons] at h8 hlast
    have hi8 : ¬ i = 8 := by omega
    have h1 : ¬ i + 1 = len := by omega
    rw [List.cons_append, numLoop]
    simp only [signTest_eq, indexEight_eq, hi8, h1, decide_false, Bool.false_and, Bool.or_false,
      Bool.false_eq_true, if_false]
    have ha := a.toNat_lt
    rw [or_shift mag _ i hm ha (by omega),
      ih (i + 1) _ (by omega) (by omega) (by
        rw [Nat.pow_succ]
        have : a.toNat * 256 ^ i ≤ 255 * 256 ^ i := Nat.mul_le_mul_right _ (by omega)
        omega)]
    simp only [List.length_cons, le_cons, Nat.pow_succ]
    rw [Nat.add_right_comm i 1, Nat.mul_add, Nat.add_assoc mag, Nat.mul_comm a.toNat, Nat.mul_assoc,
      Nat.add_assoc i]

theorem numLoop_concat (pre : Bytes) (b : UInt8) (h : pre.length ≤ 8) :
    numLoop (pre.length + 1) 0 (pre ++ [b]) false 0 =
      if pre.length = 8 ∧ stripB b ≠ 0 then .err
      else .ok (decide (b.toNat ≥ 128), le pre + 256 ^ pre.length * stripB b) := by
  rw [numLoop_prefix _ _ _ pre 0 0 (by omega) (by omega) (by simp), numLoop]
  simp only [signTest_eq, indexEight_eq, Nat.zero_add, decide_true, Bool.true_and, Bool.false_or, lastByte_toNat,
    script_ReadNumber_7, Nat.pow_zero, Nat.one_mul, numLoop]
  by_cases h8 : pre.length = 8
  · by_cases hz : stripB b = 0 <;> simp [h8, hz]
  · have hs := stripB_le b
    rw [or_shift _ _ _ (le_lt pre) (by omega) (by omega), Nat.mul_comm (stripB b)]
    simp [h8]

theorem wrapS_neg_nat (m : Nat) (h : m ≤ 9223372036854775808) :
    wrapS 18446744073709551616 (wrapU 18446744073709551616 (-(m : Int)) : Nat) = -(m : Int) := by
  unfold wrapS wrapU
  simp only []
  split <;> omega

/-- what `ReadNumber` does with the sign and magnitude the loop returns: the signed value, if it
    is an int64 -/
theorem decode_finish (neg : Bool) (mag : Nat) :
    (if neg = true then
      if decide (mag > 9223372036854775808) = true then Outcome.err
      else .ok (wrapS 18446744073709551616 (wrapU 18446744073709551616 (-(mag : Int))))
     else if decide (mag > 9223372036854775807) = true then .err
      else .ok (wrapS 18446744073709551616 mag)) =
    if -(2 ^ 63 : Int) ≤ signed neg mag ∧ signed neg mag < 2 ^ 63 then .ok (signed neg mag)
    else .err := by
  unfold signed
  cases neg
  · by_cases h : mag > 9223372036854775807
    · simp only [Bool.false_eq_true, if_false, h, decide_true, if_true]
      rw [if_neg (by omega)]
    · simp only [Bool.false_eq_true, if_false, h, decide_false]
      rw [if_pos (by omega), wrapS_nat _ (by omega)]
  · by_cases h : mag > 9223372036854775808
    · simp only [if_true, h, decide_true]
      rw [if_neg (by omega)]
    · simp only [if_true, h, decide_false, Bool.false_eq_true, if_false]
      rw [if_pos (by omega), wrapS_neg_nat _ (by omega)]

theorem decodeNum_nil : decodeNum [] = .ok 0 := by
  simp [decodeNum, numLoop, script_ReadNumber_3, script_ReadNumber_8, script_ReadNumber_10, wrapS]

theorem decodeNum_concat (pre : Bytes) (b : UInt8) :
    decodeNum (pre ++ [b]) =
      if pre.length ≤ 8 ∧
          -(2 ^ 63 : Int) ≤ signed (decide (b.toNat ≥ 128)) (le pre + 256 ^ pre.length * stripB b) ∧
          signed (decide (b.toNat ≥ 128)) (le pre + 256 ^ pre.length * stripB b) < 2 ^ 63
      then .ok (signed (decide (b.toNat ≥ 128)) (le pre + 256 ^ pre.length * stripB b)) else .err := by
  rw [decodeNum]
  simp only [script_ReadNumber_3, script_ReadNumber_8, script_ReadNumber_9, script_ReadNumber_10,
    List.length_append, List.length_singleton]
  by_cases h8 : pre.length ≤ 8
  · have hg : ¬ (((pre.length + 1 : Nat) : Int) > 9) := by omega
    rw [if_neg (by simpa using hg), numLoop_concat pre b h8]
    by_cases he : pre.length = 8 ∧ stripB b ≠ 0
    · -- a ninth byte with magnitude bits: the value has absolute value at least 2^64
      have hbig : 256 ^ pre.length * stripB b ≥ 256 ^ 8 * 1 := by
        rw [he.1]; exact Nat.mul_le_mul_left _ (by omega)
      have := natAbs_signed (decide (b.toNat ≥ 128)) (le pre + 256 ^ pre.length * stripB b)
      rw [if_pos he, if_neg (by omega)]
    · rw [if_neg he]
      refine (decode_finish _ _).trans ?_
      simp only [h8, true_and]
  · have hg : (((pre.length + 1 : Nat) : Int) > 9) := by omega
    rw [if_pos (by simpa using hg), if_neg (fun hh => h8 hh.1)]

/-- push.go:172, 174, 176: the first byte is `OP_1NEGATE`, `OP_0`, one of `OP_1 … OP_16` -/
theorem op1negate_guard (x : Nat) : script_ReadNumber_0 (firstBytes_0 := x) = true ↔ x = 79 := by
  simp [script_ReadNumber_0]
theorem op0_guard (x : Nat) : script_ReadNumber_1 (firstBytes_0 := x) = true ↔ x = 0 := by
  simp [script_ReadNumber_1]
theorem smallInt_guard (x : Nat) (hx : x < 256) :
    script_ReadNumber_2 (firstBytes_0 := x) = true ↔ (81 ≤ x ∧ x ≤ 96) := by
  simp only [script_ReadNumber_2]
  rw [wrapS_nat _ (by omega)]
  simp; omega

theorem readNumber_direct (d rest : Bytes) (h1 : 1 ≤ d.length) (h9 : d.length ≤ 9) :
    readNumber (Spec.Script.push d ++ rest) = (decodeNum d).bind fun v => .ok (v, rest) := by
  have hd := readData_push d rest (by omega)
  have hpush : Spec.Script.push d = UInt8.ofNat d.length :: d := by
    simp only [Spec.Script.push]
    rw [if_pos (by omega)]
  have ht : (UInt8.ofNat d.length).toNat = d.length := UInt8.toNat_ofNat_of_lt' (show _ < 256 by omega)
  rw [hpush, List.cons_append] at hd ⊢
  rw [readNumber, if_neg (fun h => by have := (op1negate_guard _).mp h; omega),
    if_neg (fun h => by have := (op0_guard _).mp h; omega),
    if_neg (fun h => by have := (smallInt_guard _ (UInt8.toNat_lt _)).mp h; omega), hd]

theorem smallInt_table : ∀ k, k < 17 → 1 ≤ k →
    script_ReadNumber_0 (firstBytes_0 := (UInt8.ofNat (0x50 + k)).toNat) = false ∧
    script_ReadNumber_1 (firstBytes_0 := (UInt8.ofNat (0x50 + k)).toNat) = false ∧
    script_ReadNumber_2 (firstBytes_0 := (UInt8.ofNat (0x50 + k)).toNat) = true ∧
    (UInt8.ofNat (0x50 + k) - 0x50).toNat = k := by decide

theorem readNumber_small (k : Nat) (h1 : 1 ≤ k) (h16 : k ≤ 16) (rest : Bytes) :
    readNumber (UInt8.ofNat (0x50 + k) :: rest) = .ok ((k : Int), rest) := by
  obtain ⟨g0, g1, g2, e⟩ := smallInt_table k (by omega) h1
  rw [readNumber, g0, g1, g2, e]
  rfl

end BtcVerif.Proofs.Script
