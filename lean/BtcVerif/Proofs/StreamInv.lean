/- C16: an inversion principle for the step function.  `StepI` names the protocol's transitions, each with the
state it leads to written as a plain record update (the `if`s of `loopHead` and `afterFirst` are resolved into
separate transitions), so that an invariant proof sees at once which fields a transition writes. -/
import BtcVerif.Proofs.Stream

namespace BtcVerif.Model.Stream
open BtcVerif.Gen.Guards

/-- phase changes of a worker that involve nobody else (the height stays the same) -/
inductive WLocal (s : State) (w : Worker) : WPhase → Label → Prop
  | reqHash : w.ph = .next → WLocal s w .hashWait (some (.req w.pos .hash))
  | hashOk : w.ph = .hashWait → WLocal s w .blockReq (some (.rsp w.pos .hash .ok))
  | hashErr : w.ph = .hashWait → WLocal s w .offerErr (some (.rsp w.pos .hash .err))
  | reqBlock : w.ph = .blockReq → WLocal s w .blockWait (some (.req w.pos .block))
  | blockOk : w.ph = .blockWait → WLocal s w (.offer true) (some (.rsp w.pos .block .ok))
  | blockNolink : w.ph = .blockWait → WLocal s w (.offer false) (some (.rsp w.pos .block .nolink))
  | blockErr : w.ph = .blockWait → WLocal s w .offerErr (some (.rsp w.pos .block .err))
  | ctxDone (g : Bool) : w.ph = .offer g → s.workerCtxDone = true → WLocal s w .done none

/-- the re-orderer fetching the first block: only its phase changes -/
inductive RFirst (P : Params) : RPhase → Label → RPhase → Prop
  | reqHash : RFirst P .f0 (some (.req P.lo .hash)) .f1
  | hashOk : RFirst P .f1 (some (.rsp P.lo .hash .ok)) .f1b
  | hashErr : RFirst P .f1 (some (.rsp P.lo .hash .err)) .sendErr
  | reqBlock : RFirst P .f1b (some (.req P.lo .block)) .f2
  | blockErr : RFirst P .f2 (some (.rsp P.lo .block .err)) .sendErr

inductive StepI (P : Params) (s : State) : Label → State → Prop
  | wLocal (i : Nat) (w : Worker) (ph' : WPhase) (l : Label) :
      s.workers[i]? = some w → WLocal s w ph' l → StepI P s l (setW s i { w with ph := ph' })
  | wGiveC (i : Nat) (w : Worker) (g : Bool) :
      s.workers[i]? = some w → w.ph = .offer g → P.mode = .unordered → s.cph = .call →
      StepI P s none { setW s i (advance P w) with cph := .got w.pos }
  | wErrC (i : Nat) (w : Worker) :
      s.workers[i]? = some w → w.ph = .offerErr → P.mode = .unordered → s.cph = .call →
      StepI P s none { setW s i { w with ph := .done } with cph := .gotErr }
  | wGiveR (i : Nat) (w : Worker) (g : Bool) :
      s.workers[i]? = some w → w.ph = .offer g → P.mode ≠ .unordered → s.rph = .loop →
      StepI P s none { setW s i (advance P w) with
                        rph := .rel, buf := if g then insertSorted w.pos s.buf else s.buf }
  | wErrR (i : Nat) (w : Worker) :
      s.workers[i]? = some w → w.ph = .offerErr → P.mode ≠ .unordered → s.rph = .loop →
      StepI P s none { setW s i { w with ph := .done } with rph := .sendErr }
  | closer : s.started = true → s.closed = false → allDone s.workers = true → StepI P s none { s with closed := true }
  | rFirst (r : RPhase) (l : Label) (ph' : RPhase) : s.rph = r → RFirst P r l ph' → StepI P s l { s with rph := ph' }
  | rSingle (good : Bool) : s.rph = .f2 → P.lo = P.hi →
      StepI P s (some (.rsp P.lo .block (if good then .ok else .nolink))) { s with latestOk := good, rph := .s0 }
  | rStart (good : Bool) : s.rph = .f2 → P.lo < P.hi →
      StepI P s (some (.rsp P.lo .block (if good then .ok else .nolink)))
        { s with latestOk := good, rph := .s0, workers := initWorkers P true, started := true }
  | rS0Loop : s.rph = .s0 → s.cph = .call → P.lo < P.hi →
      StepI P s none { s with cph := .got P.lo, cur := P.lo + 1, rph := .loop }
  | rS0Exit : s.rph = .s0 → s.cph = .call → P.lo = P.hi →
      StepI P s none (exitX { s with cph := .got P.lo, cur := P.lo + 1 })
  | rLoopCancel : s.rph = .loop → (s.cancel0 || s.cancel1) = true → StepI P s none (exitX s)
  | rLoopClosed : s.rph = .loop → s.closed = true → StepI P s none { s with closedSeen := true, rph := .rel }
  | rRelSend : s.rph = .rel → s.latestOk = true → s.cur ∈ s.buf →
      StepI P s none { s with rph := .snd s.cur, buf := s.buf.erase s.cur }
  | rRelErr : s.rph = .rel → ¬ (s.latestOk = true ∧ s.cur ∈ s.buf) → s.closedSeen = true →
      StepI P s none { s with rph := .sendErr }
  | rRelLoop : s.rph = .rel → ¬ (s.latestOk = true ∧ s.cur ∈ s.buf) → s.closedSeen = false → s.cur ≤ P.hi →
      StepI P s none { s with rph := .loop }
  | rRelExit : s.rph = .rel → ¬ (s.latestOk = true ∧ s.cur ∈ s.buf) → s.closedSeen = false → P.hi < s.cur →
      StepI P s none (exitX s)
  | rSnd (h : Nat) : s.rph = .snd h → s.cph = .call →
      StepI P s none { s with cph := .got h, cur := s.cur + 1, rph := .rel }
  | rSendErr : s.rph = .sendErr → s.cph = .call → StepI P s none (exitX { s with cph := .gotErr })
  | cCall : s.cph = .idle → (P.mode = .utxo → P.lo + s.cnt ≤ P.hi) → StepI P s none { s with cph := .call }
  | cRetOk : s.cph = .idle → P.mode = .utxo → ¬ (P.lo + s.cnt ≤ P.hi) →
      StepI P s (some (.utxoReturn true)) { s with cph := .finished, cancel1 := true, ret := some true }
  | cSeeEnd : s.cph = .call → s.streamClosed P = true → StepI P s none { s with cph := .gotEnd }
  | cDeliver (h : Nat) : s.cph = .got h →
      StepI P s (some (.deliver h)) { s with cph := .idle, delivered := s.delivered ++ [h],
                                              cnt := if P.mode = .utxo then s.cnt + 1 else s.cnt }
  | cErr : s.cph = .gotErr → P.mode ≠ .utxo →
      StepI P s (some .error) { s with cph := .idle, errs := s.errs + 1 }
  | cRetErr : (s.cph = .gotErr ∨ s.cph = .gotEnd) → P.mode = .utxo →
      StepI P s (some (.utxoReturn false)) { s with cph := .finished, cancel1 := true, ret := some false }
  | cEnd : s.cph = .gotEnd → P.mode ≠ .utxo →
      StepI P s (some .endOfStream) { s with cph := .finished, ended := true }
  | envCancel : s.cancel0 = false → StepI P s (some .cancel) { s with cancel0 := true }

theorem mem_pair_cons {l a : Label} {s' b : State} {xs : List (Label × State)} :
    (l, s') ∈ (a, b) :: xs ↔ (l = a ∧ s' = b) ∨ (l, s') ∈ xs := by
  rw [List.mem_cons, Prod.mk.injEq]

theorem mem_pair_alt {l a : Label} {s' b : State} {c : Bool} : (l, s') ∈ alt c (a, b) ↔ c = true ∧ l = a ∧ s' = b := by
  rw [mem_alt, Prod.mk.injEq]

theorem mem_ite {α} {c : Prop} [Decidable c] {x : α} {a b : List α} :
    (x ∈ if c then a else b) ↔ if c then x ∈ a else x ∈ b := by
  split <;> rfl

theorem wsteps_inv {P s i w l s'} (hw : s.workers[i]? = some w) (h : (l, s') ∈ wsteps P s i w) :
    StepI P s l s' := by
  unfold wsteps at h
  split at h <;>
    simp only [mem_pair_cons, mem_pair_alt, List.mem_append, List.not_mem_nil, or_false] at h
  next hp => obtain ⟨rfl, rfl⟩ := h; exact .wLocal i w _ _ hw (.reqHash hp)
  next hp =>
    rcases h with ⟨rfl, rfl⟩ | ⟨rfl, rfl⟩
    · exact .wLocal i w _ _ hw (.hashOk hp)
    · exact .wLocal i w _ _ hw (.hashErr hp)
  next hp => obtain ⟨rfl, rfl⟩ := h; exact .wLocal i w _ _ hw (.reqBlock hp)
  next hp =>
    rcases h with ⟨rfl, rfl⟩ | ⟨rfl, rfl⟩ | ⟨rfl, rfl⟩
    · exact .wLocal i w _ _ hw (.blockOk hp)
    · exact .wLocal i w _ _ hw (.blockNolink hp)
    · exact .wLocal i w _ _ hw (.blockErr hp)
  next g hp =>
    rcases h with ⟨hc, rfl, rfl⟩ | h
    · exact .wLocal i w _ _ hw (.ctxDone g hp hc)
    · split at h <;> rw [mem_pair_alt, decide_eq_true_eq] at h <;> obtain ⟨hc, rfl, rfl⟩ := h
      next hm => exact .wGiveC i w g hw hp hm hc
      next hm => exact .wGiveR i w g hw hp hm hc
  next hp =>
    split at h <;> rw [mem_pair_alt, decide_eq_true_eq] at h <;> obtain ⟨hc, rfl, rfl⟩ := h
    next hm => exact .wErrC i w hw hp hm hc
    next hm => exact .wErrR i w hw hp hm hc

theorem rsteps_inv {P : Params} (hP : P.lo ≤ P.hi) {s l s'} (h : (l, s') ∈ rsteps P s) : StepI P s l s' := by
  unfold rsteps at h
  split at h <;>
    simp only [mem_pair_cons, mem_pair_alt, mem_ite, List.mem_append, List.not_mem_nil, or_false, decide_eq_true_eq] at h
  next hp => obtain ⟨rfl, rfl⟩ := h; exact .rFirst _ _ _ hp .reqHash
  next hp =>
    rcases h with ⟨rfl, rfl⟩ | ⟨rfl, rfl⟩
    · exact .rFirst _ _ _ hp .hashOk
    · exact .rFirst _ _ _ hp .hashErr
  next hp => obtain ⟨rfl, rfl⟩ := h; exact .rFirst _ _ _ hp .reqBlock
  next hp =>
    have first : ∀ good, StepI P s (some (.rsp P.lo .block (if good then .ok else .nolink))) (afterFirst P s good) := by
      intro good
      simp only [afterFirst, blockscan_BlockScanner_streamBlocksUnordered_0, decide_eq_true_eq]
      by_cases he : P.lo = P.hi
      · rw [if_pos he]; exact .rSingle good hp he
      · rw [if_neg he, if_neg (show ¬ P.hi < P.lo + 1 by omega)]; exact .rStart good hp (by omega)
    rcases h with ⟨rfl, rfl⟩ | ⟨rfl, rfl⟩ | ⟨rfl, rfl⟩
    · exact first true
    · exact first false
    · exact .rFirst _ _ _ hp .blockErr
  next hp =>
    obtain ⟨hc, rfl, rfl⟩ := h
    unfold loopHead
    split
    next hle => exact .rS0Loop hp hc hle
    next hle => exact .rS0Exit hp hc (by simp at hle; omega)
  next hp =>
    rcases h with ⟨hc, rfl, rfl⟩ | ⟨hc, rfl, rfl⟩
    · exact .rLoopCancel hp hc
    · exact .rLoopClosed hp hc
  next hp =>
    simp only [Bool.and_eq_true, List.contains_eq_mem, decide_eq_true_eq] at h
    split at h
    next hc => obtain ⟨rfl, rfl⟩ := h; exact .rRelSend hp hc.1 hc.2
    next hc =>
      split at h <;> obtain ⟨rfl, rfl⟩ := h
      next hcs => exact .rRelErr hp hc hcs
      next hcs =>
        rw [Bool.not_eq_true] at hcs
        unfold loopHead
        split
        next hle => exact .rRelLoop hp hc hcs hle
        next hle => exact .rRelExit hp hc hcs (Nat.lt_of_not_le hle)
  next h0 hp => obtain ⟨hc, rfl, rfl⟩ := h; exact .rSnd h0 hp hc
  next hp => obtain ⟨hc, rfl, rfl⟩ := h; exact .rSendErr hp hc

theorem csteps_inv {P s l s'} (h : (l, s') ∈ csteps P s) : StepI P s l s' := by
  unfold csteps at h
  split at h <;>
    simp only [mem_pair_cons, mem_pair_alt, mem_ite, List.not_mem_nil, or_false, decide_eq_true_eq,
      blockscan_BlockScanner_UpdateUtxos_0, blockscan_BlockScanner_UpdateUtxos_1, if_true] at h
  next hp =>
    split at h
    next hm =>
      split at h <;> obtain ⟨rfl, rfl⟩ := h
      next hg => exact .cCall hp fun _ => hg
      next hg => exact .cRetOk hp hm hg
    next hm => obtain ⟨rfl, rfl⟩ := h; exact .cCall hp fun hm' => absurd hm' hm
  next hp => obtain ⟨hc, rfl, rfl⟩ := h; exact .cSeeEnd hp hc
  next h0 hp => obtain ⟨rfl, rfl⟩ := h; exact .cDeliver h0 hp
  next hp =>
    split at h <;> obtain ⟨rfl, rfl⟩ := h
    next hm => exact .cRetErr (.inl hp) hm
    next hm => exact .cErr hp hm
  next hp =>
    split at h <;> obtain ⟨rfl, rfl⟩ := h
    next hm => exact .cRetErr (.inr hp) hm
    next hm => exact .cEnd hp hm

/-- The range check inside the goroutine (`afterFirst`) cannot fail when `lo ≤ hi`. -/
theorem step_inv {P : Params} (hP : P.lo ≤ P.hi) {s l s'} (h : Step P s l s') : StepI P s l s' := by
  unfold Step steps at h
  split at h
  · cases h
  next =>
    simp only [List.mem_append, closerSteps, envSteps, mem_pair_alt, Bool.and_eq_true, Bool.not_eq_true'] at h
    rcases h with (((h | ⟨⟨⟨hs, hc⟩, hd⟩, rfl, rfl⟩) | h) | h) | ⟨hc, rfl, rfl⟩
    · obtain ⟨i, w, hw, hx⟩ := (mem_forWorkers _ _ _).mp h
      exact wsteps_inv hw hx
    · exact .closer hs hc hd
    · exact rsteps_inv hP h
    · exact csteps_inv h
    · exact .envCancel hc

end BtcVerif.Model.Stream
