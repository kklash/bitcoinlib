/-
  Lemmas for C13 (taproot): key tweaks over an abstract group, agreement with the BIP341 reference
  functions, leaf / branch / tree hashes, P2TR outputs, dead keys. SHA-256 is an ARBITRARY function
  `sha` throughout.
-/
import BtcVerif.Proofs.Bip32
import BtcVerif.Model.Taproot
import BtcVerif.Spec.Taproot
import BtcVerif.Proofs.Varint

namespace BtcVerif.Proofs.Taproot
open BtcVerif BtcVerif.Outcome BtcVerif.Model BtcVerif.Model.Bip32 BtcVerif.Model.Taproot BtcVerif.Gen.Guards BtcVerif.Proofs.Bip32

variable {P : Type} {C : CurveOps P} {sha : Bytes → Bytes}

theorem taggedHash_two (tag : String) (a b : Bytes) :
    taggedHash sha tag [a, b] = taggedHash sha tag [a ++ b] := by
  simp [taggedHash]

theorem taggedHash_spec (tag : String) (m : Bytes) :
    taggedHash sha tag [m] = Spec.Taproot.taggedHash sha tag m := by
  simp [taggedHash, Spec.Taproot.taggedHash]

theorem tapTweak_two (a b : Bytes) : tapTweak sha [a, b] = tapTweak sha [a ++ b] := by
  unfold tapTweak; rw [taggedHash_two]

theorem tweak_commute (S : SecpGroup C) (E : PointCodec C) (X : XOnly C S) (sk h : Bytes)
    (hv : isValidScalar C.n (beNat sk) = true) :
    tweakPub C sha (C.xBytes (C.mulG (beNat sk))) h =
      (tweakPriv C sha sk h).map
        (fun sk' => (C.xBytes (C.mulG (beNat sk')), C.yOdd (C.mulG (beNat sk')))) := by
  -- parsing `x(P)` gives `P` or `−P` by the parity of `P`; `TweakPrivateKey` replaces `d` by `n − d`
  -- in exactly that case, and `(n − d)·G = −(d·G)` (`mulG_sub`)
  have hne := S.mulG_valid_ne_zero hv
  have hmod := S.mod_n_lt
  unfold tweakPub tweakPriv
  simp only [taproot_TweakPublicKey_0, taproot_TweakPublicKey_1, taproot_TweakPrivateKey_0,
    taproot_TweakPrivateKey_1, taproot_TweakPrivateKey_2, E.xBytes_length, hv,
    X.parse_xBytes _ hne, tapTweak_two]
  by_cases ht : isValidScalar C.n (tapTweak sha [C.xBytes (C.mulG (beNat sk)) ++ h]) = true
  · by_cases hodd : C.yOdd (C.mulG (beNat sk)) = true
    · simp [ht, hodd, fill32, hmod, Outcome.map, beNat_beBytes 32 _ (hmod _), S.mulG_mod, S.mulG_add,
        S.mulG_sub _ (Nat.le_of_lt (isValidScalar_iff.mp hv).2)]
    · simp [ht, hodd, fill32, hmod, Outcome.map, beNat_beBytes 32 _ (hmod _), S.mulG_mod, S.mulG_add]
  · simp [ht, Outcome.map]

theorem tapTweak_spec (pk h : Bytes) :
    tapTweak sha [pk, h] = beNat (Spec.Taproot.taggedHash sha "TapTweak" (pk ++ h)) := by
  simp [tapTweak, taggedHash_two, taggedHash_spec]

/-- `TweakPublicKey` is BIP341's `taproot_tweak_pubkey`, except that it refuses the tweak `t = 0` too -/
theorem tweakPub_eq (pk h : Bytes) :
    tweakPub C sha pk h =
      if tapTweak sha [pk, h] = 0 then .err
      else match Spec.Taproot.taprootTweakPubkey C sha pk h with
        | none => .err
        | some (par, q) => .ok (q, par) := by
  unfold tweakPub Spec.Taproot.taprootTweakPubkey
  simp only [taproot_TweakPublicKey_0, taproot_TweakPublicKey_1, ← tapTweak_spec]
  generalize tapTweak sha [pk, h] = t
  by_cases hlen : pk.length = 32
  · cases C.parse pk with
    | none => simp [hlen]
    | some pt =>
      by_cases hv : isValidScalar C.n t = true
      · obtain ⟨h0, hn⟩ := isValidScalar_iff.mp hv
        simp [hlen, hv, Nat.ne_of_gt h0, Nat.not_le.mpr hn]
      · have : t = 0 ∨ C.n ≤ t := by rw [isValidScalar_iff] at hv; omega
        rcases this with rfl | hn <;> simp [*]
  · have : ¬ (pk.length : Int) = 32 := by omega
    simp [hlen, this]

/-- `TweakPrivateKey` with its tests evaluated, next to BIP341's `taproot_tweak_seckey`: both write
    the same scalar `x mod n`, the code when key and tweak `t` are valid scalars, the standard when
    `t < n` (so they differ at `t = 0`, and the code could panic in `FillBytes` if `n > 2^256`) -/
theorem tweakPriv_vs_spec (sk h : Bytes) : ∃ t x : Nat,
    t = tapTweak sha [C.xBytes (C.mulG (beNat sk)) ++ h] ∧
    tweakPriv C sha sk h =
      (if isValidScalar C.n (beNat sk) = true ∧ isValidScalar C.n t = true then fill32 (x % C.n) else .err) ∧
    Spec.Taproot.taprootTweakSeckey C sha sk h = (if C.n ≤ t then none else some (beBytes 32 (x % C.n))) := by
  refine ⟨_, (if C.yOdd (C.mulG (beNat sk)) then C.n - beNat sk else beNat sk) +
    tapTweak sha [C.xBytes (C.mulG (beNat sk)) ++ h], rfl, ?_, ?_⟩
  · have hy : taproot_TweakPrivateKey_1 (if C.yOdd (C.mulG (beNat sk)) then 1 else 0) =
        C.yOdd (C.mulG (beNat sk)) := by cases C.yOdd (C.mulG (beNat sk)) <;> rfl
    unfold tweakPriv
    simp only [taproot_TweakPrivateKey_0, taproot_TweakPrivateKey_2, hy]
    cases isValidScalar C.n (beNat sk)
    · rfl
    · cases isValidScalar C.n (tapTweak sha [C.xBytes (C.mulG (beNat sk)) ++ h]) <;> rfl
  · simp only [Spec.Taproot.taprootTweakSeckey, tapTweak, taggedHash_spec, ge_iff_le]

theorem encVarint_eq_compactSize (n : Nat) : encVarint n = Spec.Taproot.compactSize n := by
  unfold Spec.Taproot.compactSize
  rcases varint_range n with h | ⟨h, h'⟩ | ⟨h, h'⟩ | h
  · rw [encVarint_u8 h, if_pos (by omega)]
  · rw [encVarint_u16 h h', if_neg (by omega), if_pos h']
  · rw [encVarint_u32 h h', if_neg (by omega), if_neg (by omega), if_pos h']
  · rw [encVarint_u64 h, if_neg (by omega), if_neg (by omega), if_neg (by omega)]

theorem leafHash_spec (v : UInt8) (s : Bytes) :
    leafHash sha v s = Spec.Taproot.leafHash sha v s := by
  unfold leafHash Spec.Taproot.leafHash leafPre
  rw [taggedHash_spec, encVarint_eq_compactSize]
  rfl

theorem u8_lt_asymm {a b : UInt8} (h : a < b) : ¬ b < a := by
  rw [UInt8.lt_iff_toNat_lt] at *; omega

theorem u8_eq_of_not_lt {a b : UInt8} (h1 : ¬ a < b) (h2 : ¬ b < a) : a = b := by
  rw [UInt8.lt_iff_toNat_lt] at *
  apply UInt8.toNat_inj.mp
  omega

/-- `cmpBytes a b = 1` is "`a` is greater": of two strings exactly one is greater, or they are equal -/
theorem cmpBytes_tri : ∀ (a b : Bytes),
    (cmpBytes a b = 1 ∧ cmpBytes b a ≠ 1) ∨ (cmpBytes a b ≠ 1 ∧ cmpBytes b a = 1) ∨ a = b
  | [], [] => .inr (.inr rfl)
  | [], _ :: _ => .inr (.inl ⟨by simp [cmpBytes], by simp [cmpBytes]⟩)
  | _ :: _, [] => .inl ⟨by simp [cmpBytes], by simp [cmpBytes]⟩
  | x :: xs, y :: ys => by
    unfold cmpBytes
    by_cases h1 : x < y
    · simp [h1, u8_lt_asymm h1]
    · by_cases h2 : y < x
      · simp [h1, h2]
      · rw [if_neg h1, if_neg h2, if_neg h2, if_neg h1, u8_eq_of_not_lt h1 h2]
        rcases cmpBytes_tri xs ys with h | h | h
        · exact .inl h
        · exact .inr (.inl h)
        · exact .inr (.inr (by rw [h]))

theorem bytesLt_iff_cmp : ∀ (a b : Bytes), Spec.Taproot.bytesLt b a = true ↔ cmpBytes a b = 1
  | [], [] => by simp [cmpBytes, Spec.Taproot.bytesLt]
  | [], _ :: _ => by simp [cmpBytes, Spec.Taproot.bytesLt]
  | _ :: _, [] => by simp [cmpBytes, Spec.Taproot.bytesLt]
  | x :: xs, y :: ys => by
    unfold cmpBytes Spec.Taproot.bytesLt
    by_cases h1 : x < y
    · simp [h1, u8_lt_asymm h1]
    · by_cases h2 : y < x
      · simp [h1, h2]
      · simp only [h1, h2, if_false]
        exact bytesLt_iff_cmp xs ys

theorem branchHash_comm (a b : Bytes) : branchHash sha a b = branchHash sha b a := by
  unfold branchHash
  simp only [script_MastBranch_Hash_1, decide_eq_true_eq]
  rcases cmpBytes_tri a b with ⟨h1, h2⟩ | ⟨h1, h2⟩ | rfl
  · rw [if_pos h1, if_neg h2]
  · rw [if_neg h1, if_pos h2]
  · rfl

theorem branchHash_spec (a b : Bytes) :
    branchHash sha a b = Spec.Taproot.branchHash sha a b := by
  unfold branchHash Spec.Taproot.branchHash
  simp only [script_MastBranch_Hash_1, decide_eq_true_eq, bytesLt_iff_cmp, taggedHash_spec]

/-- two binds commute unless one side errs (and the other may panic) -/
theorem bind_comm_of_ne_err {α β γ} {x : Outcome α} {y : Outcome β} (hx : x ≠ .err) (hy : y ≠ .err)
    (g : α → β → Outcome γ) :
    (x >>= fun a => y >>= fun b => g a b) = (y >>= fun b => x >>= fun a => g a b) := by
  cases x with
  | err => exact absurd rfl hx
  | ok a => cases y <;> rfl
  | panic => cases y with
    | err => exact absurd rfl hy
    | _ => rfl

theorem treeHash_branch (l r : Tree) :
    treeHash sha (.branch l r) =
      if script_MastBranch_Hash_0 l.isNil r.isNil then .panic
      else treeHash sha l >>= fun a => treeHash sha r >>= fun b => .ok (branchHash sha a b) := by
  rw [treeHash]
  split
  · rfl
  · cases treeHash sha l with
    | ok a => cases treeHash sha r <;> rfl
    | _ => rfl

/-- the model's tree as a BIP341 script tree: `none` exactly when a `nil` node occurs in it (a nil
    root, which `MakeP2TR` accepts, is handled by `treeToSpec`) -/
def toSpec : Tree → Option Spec.Taproot.STree
  | .nil => none
  | .leaf v s => some (.leaf v s)
  | .hash h => some (.opaque h)
  | .branch l r =>
    match toSpec l, toSpec r with
    | some a, some b => some (.branch a b)
    | _, _ => none

theorem toSpec_isNil {t : Tree} {st : Spec.Taproot.STree} (h : toSpec t = some st) : t.isNil = false := by
  cases t <;> simp_all [toSpec, Tree.isNil]

/-- a tree hashes to BIP341's tree hash; the call panics exactly when a `nil` node occurs in the tree -/
theorem treeHash_eq (t : Tree) :
    treeHash sha t = match toSpec t with
      | some st => .ok (Spec.Taproot.treeHash sha st)
      | none => .panic := by
  induction t with
  | nil => rfl
  | leaf v s => simp [treeHash, toSpec, Spec.Taproot.treeHash, leafHash_spec]
  | hash h => rfl
  | branch l r ihl ihr =>
    rw [treeHash_branch, ihl, ihr, toSpec]
    cases hl : toSpec l with
    | none => simp
    | some a => cases hr : toSpec r with
      | none => simp
      | some b =>
        simp [script_MastBranch_Hash_0, toSpec_isNil hl, toSpec_isNil hr, Spec.Taproot.treeHash, branchHash_spec]

theorem treeHash_ne_err (t : Tree) : treeHash sha t ≠ .err := by
  rw [treeHash_eq]; split <;> simp

/-- the commitment `MakeP2TR` passes to the tweak -/
def commitment (sha : Bytes → Bytes) (tree : Tree) : Outcome Bytes :=
  if tree.isNil then .ok [] else treeHash sha tree

/-- the model's `Hasher` argument as BIP341's `script_tree` (`None` for the nil interface) -/
def treeToSpec (t : Tree) : Option (Option Spec.Taproot.STree) :=
  if t.isNil then some none else (toSpec t).map some

theorem commitment_eq (t : Tree) :
    commitment sha t = match treeToSpec t with
      | some none => .ok []
      | some (some s) => .ok (Spec.Taproot.treeHash sha s)
      | none => .panic := by
  unfold commitment treeToSpec
  cases t.isNil
  · simp only [Bool.false_eq_true, if_false]
    rw [treeHash_eq]
    cases toSpec t <;> rfl
  · rfl

/-- `t'` is `t` with the two children of any number of branch nodes exchanged -/
inductive ChildSwap : Tree → Tree → Prop where
  | refl (t : Tree) : ChildSwap t t
  | swap {l r l' r' : Tree} : ChildSwap l l' → ChildSwap r r' → ChildSwap (.branch l r) (.branch r' l')
  | congr {l r l' r' : Tree} : ChildSwap l l' → ChildSwap r r' → ChildSwap (.branch l r) (.branch l' r')

theorem ChildSwap.isNil_eq {t t' : Tree} (h : ChildSwap t t') : t.isNil = t'.isNil := by
  cases h <;> rfl

theorem treeHash_swap {t t' : Tree} (h : ChildSwap t t') : treeHash sha t = treeHash sha t' := by
  induction h with
  | refl t => rfl
  | @swap l r l' r' hl hr ihl ihr =>
    rw [treeHash_branch, treeHash_branch, hl.isNil_eq, hr.isNil_eq, ihl, ihr,
      bind_comm_of_ne_err (treeHash_ne_err l') (treeHash_ne_err r')]
    simp only [script_MastBranch_Hash_0, Bool.or_comm, branchHash_comm]
  | @congr l r l' r' hl hr ihl ihr =>
    rw [treeHash_branch, treeHash_branch, hl.isNil_eq, hr.isNil_eq, ihl, ihr]

theorem pushData_32 {key : Bytes} (h : key.length = 32) : pushData key = .ok ((0x20 : UInt8) :: key) := by
  unfold pushData
  simp [script_PushData_0, h]

theorem tweakPub_key_length (E : PointCodec C) {pk h : Bytes} {r : Bytes × Bool}
    (hok : tweakPub C sha pk h = .ok r) : r.1.length = 32 := by
  unfold tweakPub at hok
  split at hok
  · cases hok
  · split at hok
    · cases hok
    · simp only [] at hok
      split at hok
      · cases hok
      · injection hok with hok; subst hok; exact E.xBytes_length _

theorem makeP2TR_eq (E : PointCodec C) (pk : Bytes) (tree : Tree) :
    makeP2TR C sha pk tree =
      (commitment sha tree >>= fun h => tweakPub C sha pk h >>= fun q =>
        (.ok ((0x51 : UInt8) :: (0x20 : UInt8) :: q.1) : Outcome Bytes)) := by
  have step : ∀ h, (do
      let q ← tweakPub C sha pk h
      let push ← pushData q.1
      Outcome.ok (UInt8.ofNat Gen.constants_OP_TRUE :: push)) =
      (tweakPub C sha pk h >>= fun q => (.ok ((0x51 : UInt8) :: (0x20 : UInt8) :: q.1) : Outcome Bytes)) :=
    fun h => bind_congr_ok fun q hq => by rw [pushData_32 (tweakPub_key_length E hq)]; rfl
  unfold makeP2TR commitment
  cases tree.isNil <;>
    simp only [script_MakeP2TR_0, step, Bool.not_false, Bool.not_true, if_true, Bool.false_eq_true,
      if_false, Outcome.pure_eq, Outcome.bind_ok]

theorem verifyDead_eq (H : P) (key proof : Bytes) :
    verifyDead C H key proof =
      if isValidScalar C.n (beNat proof) = true then
        buildDead C H proof >>= fun dead => if key = dead then .ok () else .err
      else .err := by
  unfold verifyDead
  simp only [taproot_VerifyDeadKey_0, taproot_VerifyDeadKey_1]
  cases isValidScalar C.n (beNat proof)
  · rfl
  · cases buildDead C H proof with
    | ok dead => by_cases hk : key = dead <;> simp [hk]
    | _ => rfl

theorem buildDead_ok (S : SecpGroup C) (H : P) (proof : Bytes)
    (hv : isValidScalar C.n (beNat proof) = true) :
    buildDead C H proof = .ok (C.xBytes (C.add H (C.mulG (beNat proof)))) := by
  unfold buildDead scalarBaseMult
  simp [S.valid_lt hv]

end BtcVerif.Proofs.Taproot
