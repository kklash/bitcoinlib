/-
  C15 — the 64-bit pattern (`math.Float64bits` / `math.Float64frombits`) of the exact binary64 model:
  the canonical values (`Canon`) and the decoding of a pattern given by its fields (`ofBits_fields`), from
  which `Props.C15.f64_bits_roundtrip` shows that decoding inverts encoding on canonical values (so
  comparing patterns with Go compares values).
-/
import BtcVerif.Prim.F64

namespace BtcVerif.Proofs.F64Bits
open BtcVerif.Prim

/-- the canonical form that the header of `Prim/F64.lean` describes -/
def Canon : F64 → Prop
  | .nan => True
  | .inf _ => True
  | .fin _ m e => (m < 2 ^ 52 ∧ e = -1074) ∨ (2 ^ 52 ≤ m ∧ m < 2 ^ 53 ∧ -1074 ≤ e ∧ e ≤ 971)

instance : DecidablePred Canon := fun x => by
  cases x <;> simp only [Canon] <;> infer_instance

/-- decoding a pattern given by its fields: the sign, the 11 exponent bits `E`, the 52 fraction bits `f` -/
theorem ofBits_fields (neg : Bool) (E f : Nat) (hE : E < 2048) (hf : f < 2 ^ 52) :
    F64.ofBits ((if neg then 2 ^ 63 else 0) + (E * 2 ^ 52 + f)) =
      if E = 0 then .fin neg f (-1074)
      else if E = 2047 then (if f = 0 then .inf neg else .nan)
      else .fin neg (2 ^ 52 + f) ((E : Int) - 1075) := by
  -- the sign bit lies above the other 63 bits and does not disturb them
  have hs : (neg = false ∧ (if neg then 2 ^ 63 else 0) = 0) ∨ (neg = true ∧ (if neg then 2 ^ 63 else 0) = 2 ^ 63) := by
    cases neg <;> simp
  generalize (if neg then 2 ^ 63 else 0) = sgn at hs ⊢
  have a : (sgn + (E * 2 ^ 52 + f)) / 2 ^ 52 % 2048 = E := by omega
  have b : (sgn + (E * 2 ^ 52 + f)) % 2 ^ 52 = f := by omega
  have c : decide (2 ^ 63 ≤ (sgn + (E * 2 ^ 52 + f)) % 2 ^ 64) = neg := by
    rcases hs with ⟨h1, h2⟩ | ⟨h1, h2⟩ <;> rw [h1]
    · exact decide_eq_false (by omega)
    · exact decide_eq_true (by omega)
  unfold F64.ofBits
  simp only [a, b, c]

end BtcVerif.Proofs.F64Bits
