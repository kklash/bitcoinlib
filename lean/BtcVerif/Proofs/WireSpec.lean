/-
  The reference grammar `Spec/Wire.lean` against the modelled encoder: each grammar relation holds exactly of
  the encoder's string, on the value ranges the grammar itself forces (`RTxIn` … `RTx`, no library limit).

  Every clause of the grammar has the form `∃ x, Part v x ∧ …`; once `Part v x ↔ P v ∧ x = enc v` is known the
  bound string is eliminated by `exists_eq_left`, which is what the `simp only` calls below do.
-/
import BtcVerif.Spec.Wire
import BtcVerif.Proofs.Block

namespace BtcVerif.Proofs.WireSpec
open BtcVerif BtcVerif.Model BtcVerif.Parser BtcVerif.Spec.Wire
open BtcVerif.Gen.Guards

theorem LE_iff_leNat {k n : Nat} {bs : Bytes} : LE k n bs ↔ bs.length = k ∧ leNat bs = n := by
  constructor
  · intro h
    induction h with
    | zero => exact ⟨rfl, rfl⟩
    | succ b _ ih => exact ⟨congrArg (· + 1) ih.1, by rw [leNat, ih.2]⟩
  · rintro ⟨rfl, rfl⟩
    induction bs with
    | nil => exact LE.zero
    | cons b bs ih => exact LE.succ b ih

theorem LE_iff {k n : Nat} {bs : Bytes} : LE k n bs ↔ n < 256 ^ k ∧ bs = leBytes k n := by
  rw [LE_iff_leNat]
  constructor
  · rintro ⟨rfl, rfl⟩
    exact ⟨leNat_lt bs, (leBytes_leNat bs).symm⟩
  · rintro ⟨hlt, rfl⟩
    exact ⟨leBytes_length k n, leNat_leBytes k n hlt⟩

theorem ofNat_toNat_u8 (b : UInt8) : UInt8.ofNat b.toNat = b := by simp

theorem CompactSize_iff {v : Nat} {bs : Bytes} :
    CompactSize v bs ↔ v < 2 ^ 64 ∧ bs = encVarint v := by
  constructor
  · intro h
    cases h with
    | u8 hv hb =>
      subst hb
      exact ⟨by omega, by rw [encVarint_u8 (by omega), ofNat_toNat_u8]⟩
    | u16 h1 h2 hle =>
      obtain ⟨_, rfl⟩ := LE_iff.mp hle
      exact ⟨by omega, (encVarint_u16 h1 h2).symm⟩
    | u32 h1 h2 hle =>
      obtain ⟨_, rfl⟩ := LE_iff.mp hle
      exact ⟨by omega, (encVarint_u32 h1 h2).symm⟩
    | u64 h1 hle =>
      obtain ⟨hlt, rfl⟩ := LE_iff.mp hle
      exact ⟨hlt, (encVarint_u64 h1).symm⟩
  · rintro ⟨hv, rfl⟩
    rcases varint_range v with h8 | ⟨h16, h16'⟩ | ⟨h32, h32'⟩ | h64
    · rw [encVarint_u8 h8]
      exact .u8 (by omega) (UInt8.toNat_ofNat_of_lt' (show v < 256 by omega))
    · rw [encVarint_u16 h16 h16']
      exact .u16 h16 h16' (LE_iff.mpr ⟨by omega, rfl⟩)
    · rw [encVarint_u32 h32 h32']
      exact .u32 h32 h32' (LE_iff.mpr ⟨by omega, rfl⟩)
    · rw [encVarint_u64 h64]
      exact .u64 h64 (LE_iff.mpr ⟨hv, rfl⟩)

theorem Concat_iff {α} {R : α → Bytes → Prop} {P : α → Prop} {f : α → Bytes}
    (hR : ∀ x bs, R x bs ↔ P x ∧ bs = f x) (xs : List α) (bs : Bytes) :
    Concat R xs bs ↔ (∀ x ∈ xs, P x) ∧ bs = encMany f xs := by
  induction xs generalizing bs with
  | nil =>
    constructor
    · rintro ⟨⟩; exact ⟨nofun, rfl⟩
    · rintro ⟨_, rfl⟩; exact Concat.nil
  | cons x xs ih =>
    rw [List.forall_mem_cons, encMany_cons]
    constructor
    · rintro (_ | ⟨hx, hxs⟩)
      obtain ⟨px, rfl⟩ := (hR _ _).mp hx
      obtain ⟨pxs, rfl⟩ := (ih _).mp hxs
      exact ⟨⟨px, pxs⟩, rfl⟩
    · rintro ⟨⟨px, pxs⟩, rfl⟩
      exact Concat.cons ((hR _ _).mpr ⟨px, rfl⟩) ((ih _).mpr ⟨pxs, rfl⟩)

theorem Vector_iff {α} {R : α → Bytes → Prop} {P : α → Prop} {f : α → Bytes}
    (hR : ∀ x bs, R x bs ↔ P x ∧ bs = f x) (xs : List α) (bs : Bytes) :
    Vector R xs bs ↔ xs.length < 2 ^ 64 ∧ (∀ x ∈ xs, P x) ∧ bs = encVarint xs.length ++ encMany f xs := by
  simp only [Spec.Wire.Vector, CompactSize_iff, Concat_iff hR, and_assoc, exists_and_left, exists_eq_left]

theorem VarBytes_iff (s bs : Bytes) : VarBytes s bs ↔ s.length < 2 ^ 64 ∧ bs = encChunk s := by
  simp only [VarBytes, CompactSize_iff, encChunk, and_assoc, exists_and_left, exists_eq_left]

theorem IsOutPoint_iff (p : PrevOut) (bs : Bytes) : IsOutPoint p bs ↔ WFPrevOut p ∧ bs = encPrevOut p := by
  simp only [IsOutPoint, LE_iff, WFPrevOut, encPrevOut, and_assoc, exists_and_left, exists_eq_left]

/-- the value ranges the grammar forces on the parts -/
def RTxIn (i : TxIn) : Prop := WFPrevOut i.prev ∧ i.script.length < 2 ^ 64 ∧ i.sequence < 2 ^ 32
def RTxOut (o : TxOut) : Prop := o.value < 2 ^ 64 ∧ o.script.length < 2 ^ 64
def RWitness (w : Witness) : Prop := w.length < 2 ^ 64 ∧ ∀ c ∈ w, c.length < 2 ^ 64

theorem IsTxIn_iff (i : TxIn) (bs : Bytes) : IsTxIn i bs ↔ RTxIn i ∧ bs = encTxIn i := by
  simp only [IsTxIn, IsOutPoint_iff, VarBytes_iff, LE_iff, RTxIn, encTxIn, encChunk, and_assoc,
    exists_and_left, exists_eq_left, List.append_assoc]

theorem IsTxOut_iff (o : TxOut) (bs : Bytes) : IsTxOut o bs ↔ RTxOut o ∧ bs = encTxOut o := by
  simp only [IsTxOut, VarBytes_iff, LE_iff, RTxOut, encTxOut, encChunk, and_assoc, exists_and_left,
    exists_eq_left, List.append_assoc]

theorem IsWitnessStack_iff (w : Witness) (bs : Bytes) :
    IsWitnessStack w bs ↔ RWitness w ∧ bs = encWitness w := by
  simp only [IsWitnessStack, Vector_iff VarBytes_iff, RWitness, encWitness, encMany, and_assoc]

/-- the value ranges of a whole transaction, in the order of the grammar's clauses -/
def RTx (tx : Tx) : Prop :=
  tx.version < 2 ^ 32 ∧ tx.inputs.length < 2 ^ 64 ∧ (∀ i ∈ tx.inputs, RTxIn i) ∧
  tx.outputs.length < 2 ^ 64 ∧ (∀ o ∈ tx.outputs, RTxOut o) ∧ tx.locktime < 2 ^ 32 ∧
  (∀ ws, tx.witnesses = some ws → ws.length = tx.inputs.length ∧ ∀ w ∈ ws, RWitness w)

theorem IsTx_iff (tx : Tx) (bs : Bytes) : IsTx tx bs ↔ RTx tx ∧ bs = txBytes tx := by
  obtain ⟨v, ins, outs, wits, lock⟩ := tx
  cases wits <;>
  simp only [IsTx, LE_iff, Vector_iff IsTxIn_iff, Vector_iff IsTxOut_iff, Concat_iff IsWitnessStack_iff, RTx,
    txBytes, witList, segwitFlag, encMany_nil, and_assoc, exists_and_left, exists_eq_left, List.append_assoc,
    List.append_nil, Nat.reducePow, reduceCtorEq, false_implies, implies_true, true_and, Option.some.injEq,
    forall_eq']

theorem le_sum_of_mem {n : Nat} {xs : List Nat} (h : n ∈ xs) : n ≤ xs.sum := by
  induction xs with
  | nil => cases h
  | cons x xs ih =>
    rw [List.sum_cons]
    rcases List.mem_cons.mp h with rfl | h
    · omega
    · have := ih h; omega

theorem RTx_of_WF {tx : Tx} (h : WFTx tx) : RTx tx := by
  obtain ⟨h1, h2, h3, h4, h5, h6, h7, h8⟩ := h
  refine ⟨h1, by omega, fun i hi => ?_, by omega, fun o ho => ?_, h2, fun ws hws => ?_⟩
  · obtain ⟨a, b, c⟩ := h6 i hi
    exact ⟨a, by omega, c⟩
  · obtain ⟨a, b⟩ := h7 o ho
    exact ⟨a, by omega⟩
  · obtain ⟨a, b⟩ := h8 ws hws
    refine ⟨a, fun w hw => ?_⟩
    obtain ⟨c, d⟩ := b w hw
    refine ⟨by omega, fun ch hch => ?_⟩
    have : ch.length ≤ witBytes w := le_sum_of_mem (List.mem_map_of_mem hch)
    omega

theorem IsHeader_iff (h : Header) (bs : Bytes) : IsHeader h bs ↔ WFHeader h ∧ bs = encHeader h := by
  simp only [IsHeader, LE_iff, WFHeader, encHeader, and_assoc, exists_and_left, exists_eq_left]
  -- the grammar lists the two hash lengths first, `WFHeader` the version
  exact ⟨fun ⟨hp, hm, hv, r⟩ => ⟨hv, hp, hm, r⟩, fun ⟨hv, hp, hm, r⟩ => ⟨hp, hm, hv, r⟩⟩

theorem IsBlock_iff (b : Block) (bs : Bytes) :
    IsBlock b bs ↔ (WFHeader b.header ∧ b.txs.length < 2 ^ 64 ∧ ∀ t ∈ b.txs, RTx t) ∧ bs = blockBytes b := by
  simp only [IsBlock, IsHeader_iff, Vector_iff IsTx_iff, blockBytes, and_assoc, exists_and_left, exists_eq_left]

end BtcVerif.Proofs.WireSpec
