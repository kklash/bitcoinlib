/- C16: the safety invariant of every reachable state, for every mode, range and parallelism.  What is known about
the flags of the state is tabulated by the phase of the re-orderer (`RPhaseOk`) and of the consumer (`CPhaseOk`);
what is known about a worker is `WOk` and "idle iff the workers were not started yet".  The notions the mode-specific
invariants share are here too: what was handed to the consumer (`handed`, `errHanded`) and `past`, "the worker of this
height's residue class has left it behind", with how `past` changes when a worker moves.

A clause of an invariant reads some fields of the state and a transition writes some (`StepI` shows which); where
the two are disjoint the clause for the new state is, by definitional unfolding, the clause for the old one.  The
preservation proofs below are therefore organised by clause: `cases` on the transition, the transitions that write
a field the clause reads are treated, and the catch-all `| _ => exact h.clause` is that frame argument. -/
import BtcVerif.Proofs.StreamInv
namespace BtcVerif.Model.Stream
open BtcVerif.Gen.Guards

/-- worker `i` serves `base+i, base+i+p, …`, and works on a height of the range unless idle or done -/
def WOk (P : Params) (i : Nat) (w : Worker) : Prop :=
  P.base + i ≤ w.pos ∧ (w.pos - (P.base + i)) % P.p = 0 ∧ (w.ph ≠ .done → w.ph ≠ .idle → w.pos ≤ P.hi)

/-- what is known in each phase of the re-orderer: is there one, do the workers run, has it closed the
consumer-facing channels, has it seen the worker queues closed -/
def RPhaseOk (P : Params) (s : State) : RPhase → Prop
  | .absent => P.mode = .unordered ∧ s.started = true ∧ s.outClosed = false ∧ s.closedSeen = false
  | .f0 | .f1 | .f1b | .f2 => P.mode ≠ .unordered ∧ s.started = false ∧ s.outClosed = false ∧ s.closedSeen = false
  | .s0 => P.mode ≠ .unordered ∧ (s.started = true ∨ P.lo = P.hi) ∧ s.outClosed = false ∧ s.closedSeen = false
  | .loop => P.mode ≠ .unordered ∧ s.started = true ∧ s.outClosed = false ∧ s.closedSeen = false
  | .rel | .snd _ => P.mode ≠ .unordered ∧ s.started = true ∧ s.outClosed = false
  | .sendErr => P.mode ≠ .unordered ∧ s.outClosed = false
  | .fin => P.mode ≠ .unordered ∧ s.outClosed = true

/-- what is known in each phase of the consumer: `UpdateUtxos` has returned (and cancelled its context) exactly when
the consumer of mode `utxo` has finished; the end of the stream was signalled exactly when the consumer of the other
modes has finished; the end is only seen on a closed stream -/
def CPhaseOk (P : Params) (s : State) : CPhase → Prop
  | .finished => if P.mode = .utxo then s.cancel1 = true ∧ s.ret ≠ none ∧ s.ended = false
      else s.cancel1 = false ∧ s.ret = none ∧ s.ended = true ∧ s.streamClosed P = true
  | .gotEnd => s.cancel1 = false ∧ s.ret = none ∧ s.ended = false ∧ s.streamClosed P = true
  | _ => s.cancel1 = false ∧ s.ret = none ∧ s.ended = false

structure Inv (P : Params) (s : State) : Prop where
  len : s.workers.length = P.p
  np : s.panicked = false
  rp : RPhaseOk P s s.rph
  cp : CPhaseOk P s s.cph
  /-- the re-orderer's deferred function cancels and closes in one step -/
  c2 : s.cancel2 = s.outClosed
  wok : ∀ (i : Nat) (w : Worker), s.workers[i]? = some w → WOk P i w
  idle : ∀ (i : Nat) (w : Worker), s.workers[i]? = some w → (w.ph = .idle ↔ s.started = false)
  /-- the closer closes the worker queues only after all workers are done -/
  cd : s.closed = true → allDone s.workers = true
  st : s.started = false → s.closed = false

/-- blocks handed to the consumer: returned to the caller, or received by `next()` and about to be returned -/
def handed (s : State) : List Nat := s.delivered ++ (match s.cph with | .got h => [h] | _ => [])

/-- errors handed to the consumer: returned by `next()`, or received by it and about to be returned -/
def errHanded (s : State) : Nat := s.errs + (if s.cph = .gotErr then 1 else 0)

def fullRange (P : Params) : List Nat := List.range' P.lo (P.hi + 1 - P.lo)

theorem forall_set {C : Nat → Worker → Prop} {ws : List Worker} {j : Nat} {w' : Worker}
    (h : ∀ i w, ws[i]? = some w → C i w) (hw' : C j w') : ∀ i w, (ws.set j w')[i]? = some w → C i w := by
  intro i w hi
  rw [List.getElem?_set] at hi
  split at hi
  next hji =>
    split at hi
    · cases hi; exact hji ▸ hw'
    · cases hi
  · exact h i w hi

theorem initWorkers_get {P : Params} {b : Bool} {i : Nat} {w : Worker} (h : (initWorkers P b)[i]? = some w) :
    i < P.p ∧ w = initWorker P b i := by
  simp only [initWorkers, List.getElem?_map, Option.map_eq_some_iff] at h
  obtain ⟨j, hj, rfl⟩ := h
  obtain ⟨hlt, rfl⟩ := List.getElem?_eq_some_iff.mp hj
  exact ⟨by simpa using hlt, by rw [List.getElem_range]⟩

theorem wok_init (P : Params) (b : Bool) : ∀ i w, (initWorkers P b)[i]? = some w → WOk P i w := by
  intro i w h
  obtain ⟨_, rfl⟩ := initWorkers_get h
  refine ⟨Nat.le_refl _, by simp [initWorker], ?_⟩
  simp only [initWorker]
  cases b <;> by_cases h : P.base + i ≤ P.hi <;> simp [h]

theorem wok_advance {P i w} (h : WOk P i w) : WOk P i (advance P w) := by
  obtain ⟨h1, h2, _⟩ := h
  refine ⟨Nat.le_add_right_of_le h1, ?_, ?_⟩
  · have : w.pos + P.p - (P.base + i) = (w.pos - (P.base + i)) + P.p := by omega
    simp only [advance, this, Nat.add_mod_right, h2]
  · simp only [advance]; split <;> simp [*]

theorem WLocal.active {s w ph' l} (h : WLocal s w ph' l) : w.ph ≠ .done ∧ w.ph ≠ .idle := by
  cases h <;> simp [*]

theorem WLocal.ne_idle {s w ph' l} (h : WLocal s w ph' l) : ph' ≠ .idle := by
  cases h <;> simp

theorem wok_local {P i s w ph' l} (h : WOk P i w) (hl : WLocal s w ph' l) : WOk P i { w with ph := ph' } :=
  ⟨h.1, h.2.1, fun _ _ => h.2.2 hl.active.1 hl.active.2⟩

theorem wok_done {P i} {w : Worker} (h : WOk P i w) : WOk P i { w with ph := .done } :=
  ⟨h.1, h.2.1, fun h _ => absurd rfl h⟩

theorem initWorker_idle_iff (P : Params) (b : Bool) (i : Nat) : (initWorker P b i).ph = .idle ↔ b = false := by
  cases b
  · simp [initWorker]
  · simp only [initWorker, if_true]; split <;> simp

theorem advance_ph (P : Params) (w : Worker) : (advance P w).ph = .next ∨ (advance P w).ph = .done := by
  simp only [advance]; split <;> simp

theorem advance_ne_idle (P : Params) (w : Worker) : (advance P w).ph ≠ .idle :=
  (advance_ph P w).elim (· ▸ nofun) (· ▸ nofun)

theorem base_ordered {P : Params} (hm : P.mode ≠ .unordered) : P.base = P.lo + 1 := by simp [Params.base, hm]

theorem base_unordered {P : Params} (hm : P.mode = .unordered) : P.base = P.lo := by simp [Params.base, hm]

theorem mod_window {a b p : Nat} (hab : a ≤ b) (hlt : b < a + p) (hm : a % p = b % p) : a = b := by
  have h0 : (b - a) % p = 0 := Nat.sub_mod_eq_zero_of_mod_eq hm.symm
  have h1 : (b - a) % p = b - a := Nat.mod_eq_of_lt (by omega)
  omega

theorem wok_residue {P : Params} {i : Nat} {w : Worker} (h : WOk P i w) (hi : i < P.p) :
    (w.pos - P.base) % P.p = i := by
  obtain ⟨h1, h2, _⟩ := h
  have : w.pos - P.base = (w.pos - (P.base + i)) + i := by omega
  rw [this, Nat.add_mod, h2, Nat.zero_add, Nat.mod_mod, Nat.mod_eq_of_lt hi]

/-- height `h` lies behind the worker of its residue class: that worker has handed it over -/
def past (P : Params) (ws : List Worker) (h : Nat) : Prop :=
  ∃ w, ws[(h - P.base) % P.p]? = some w ∧ h < w.pos

theorem not_past_init (P : Params) (b : Bool) {h : Nat} (hb : P.base ≤ h) : ¬ past P (initWorkers P b) h := by
  rintro ⟨w, hw, hlt⟩
  obtain ⟨_, rfl⟩ := initWorkers_get hw
  have := Nat.mod_le (h - P.base) P.p
  simp only [initWorker] at hlt
  omega

theorem past_set_samepos {P : Params} {ws : List Worker} {j : Nat} {w w' : Worker} (hw : ws[j]? = some w)
    (hp : w'.pos = w.pos) (h : Nat) : past P (ws.set j w') h ↔ past P ws h := by
  unfold past
  rw [List.getElem?_set]
  split
  next hjk =>
    have hlt : j < ws.length := (List.getElem?_eq_some_iff.mp hw).1
    simp only [hlt, if_true, ← hjk, hw, Option.some.injEq, exists_eq_left', hp]
  · rfl

theorem past_set_advance {P : Params} {ws : List Worker} {i : Nat} {w : Worker} (hw : ws[i]? = some w)
    (hwok : WOk P i w) (hi : i < P.p) {h : Nat} (hb : P.base ≤ h) :
    past P (ws.set i (advance P w)) h ↔ past P ws h ∨ h = w.pos := by
  have hres := wok_residue hwok hi
  have hlt : i < ws.length := (List.getElem?_eq_some_iff.mp hw).1
  unfold past
  rw [List.getElem?_set]
  split
  next hk =>
    simp only [← hk, hw, Option.some.injEq, exists_eq_left', advance]
    constructor
    · intro hlt'
      by_cases hlt'' : h < w.pos
      · exact .inl hlt''
      · have := hwok.1
        have := mod_window (a := w.pos - P.base) (b := h - P.base) (p := P.p) (by omega) (by omega) (by rw [hres, hk])
        exact .inr (by omega)
    · rintro (h' | rfl) <;> omega
  next hk =>
    constructor
    · exact .inl
    · rintro (h' | rfl)
      · exact h'
      · exact absurd hres.symm hk

theorem allDone_iff (ws : List Worker) : allDone ws = true ↔ ∀ (i : Nat) (w : Worker), ws[i]? = some w → w.ph = .done := by
  simp only [allDone, List.all_eq_true, decide_eq_true_eq]
  constructor
  · intro h i w hw; exact h w (List.mem_of_getElem? hw)
  · intro h w hw; obtain ⟨i, hi⟩ := List.getElem?_of_mem hw; exact h i w hi

theorem Inv.idx_lt {P s} (h : Inv P s) {i : Nat} {w : Worker} (hw : s.workers[i]? = some w) : i < P.p :=
  h.len ▸ (List.getElem?_eq_some_iff.mp hw).1

theorem Inv.started_of {P s} (h : Inv P s) {i : Nat} {w : Worker} (hw : s.workers[i]? = some w) (hi : w.ph ≠ .idle) :
    s.started = true := by
  cases hs : s.started
  · exact absurd ((h.idle i w hw).mpr hs) hi
  · rfl

theorem Inv.not_closed_of {P s} (h : Inv P s) {i : Nat} {w : Worker} (hw : s.workers[i]? = some w) (hd : w.ph ≠ .done) :
    s.closed ≠ true :=
  fun hc => hd ((allDone_iff _).mp (h.cd hc) i w hw)

theorem Inv.idle_set {P s} (h : Inv P s) {i : Nat} {w w' : Worker} (hw : s.workers[i]? = some w)
    (hi : w.ph ≠ .idle) (hi' : w'.ph ≠ .idle) :
    ∀ (j : Nat) (v : Worker), (s.workers.set i w')[j]? = some v → (v.ph = .idle ↔ s.started = false) :=
  forall_set h.idle (iff_of_false hi' (by rw [h.started_of hw hi]; decide))

theorem CPhaseOk.mono {P s s' c} (h : CPhaseOk P s c) (h1 : s'.cancel1 = s.cancel1) (h2 : s'.ret = s.ret)
    (h3 : s'.ended = s.ended) (h4 : s.streamClosed P = true → s'.streamClosed P = true) : CPhaseOk P s' c := by
  cases c <;> simp only [CPhaseOk, h1, h2, h3] at h ⊢
  case finished => split <;> simp_all
  case gotEnd => exact ⟨h.1, h.2.1, h.2.2.1, h4 h.2.2.2⟩
  all_goals exact h

theorem inv_init {P : Params} (hP : P.lo ≤ P.hi) : Inv P (init P) where
  len := by simp [init, initWorkers]
  np := by
    simp only [init, blockscan_BlockScanner_streamBlocksUnordered_0, blockscan_BlockScanner_streamBlocks_0,
      ite_self, decide_eq_false_iff_not]
    omega
  rp := by simp only [init]; split <;> simp [RPhaseOk, *]
  cp := ⟨rfl, rfl, rfl⟩
  c2 := rfl
  wok := wok_init P _
  idle := fun i w hw => by
    obtain ⟨_, rfl⟩ := initWorkers_get hw
    exact initWorker_idle_iff P _ i
  cd := fun h => by cases h
  st := fun _ => rfl


theorem inv_step {P : Params} {s l s'} (h : Inv P s) (hI : StepI P s l s') : Inv P s' where
  len := by
    cases hI with
    | wLocal | wGiveC | wErrC | wGiveR | wErrR => simpa [setW] using h.len
    | rStart => simp [initWorkers]
    | _ => exact h.len
  np := by cases hI <;> exact h.np
  rp := by
    have hrp := h.rp
    cases hI with
    | rFirst _ _ _ hr hf => cases hf <;> simp_all [RPhaseOk]
    | rS0Loop hr _ hlt => rw [hr] at hrp; exact ⟨hrp.1, hrp.2.1.resolve_right (Nat.ne_of_lt hlt), hrp.2.2⟩
    | wGiveR | wErrR | rSingle | rStart | rS0Exit | rLoopCancel | rLoopClosed | rRelSend | rRelErr
    | rRelLoop | rRelExit | rSnd | rSendErr => simp_all [RPhaseOk, exitX, setW]
    | _ => exact hrp
  cp := by
    have hcp := h.cp
    cases hI with
    | closer | rLoopCancel | rRelExit =>
      refine hcp.mono rfl rfl rfl ?_
      unfold State.streamClosed; split <;> simp [exitX]
    | cSeeEnd hc hx => rw [hc] at hcp; exact ⟨hcp.1, hcp.2.1, hcp.2.2, hx⟩
    | cRetErr hc => rcases hc with hc | hc <;> simp_all [CPhaseOk]
    | cEnd => simp_all [CPhaseOk, State.streamClosed]
    | wGiveC | wErrC | rS0Loop | rS0Exit | rSnd | rSendErr | cCall | cRetOk | cDeliver | cErr =>
      simp_all [CPhaseOk, exitX, setW]
    | _ => exact hcp
  c2 := by
    cases hI with
    | rS0Exit | rLoopCancel | rRelExit | rSendErr => rfl
    | _ => exact h.c2
  wok := by
    cases hI with
    | wLocal i w _ _ hw hl => exact forall_set h.wok (wok_local (h.wok i w hw) hl)
    | wGiveC i w _ hw | wGiveR i w _ hw => exact forall_set h.wok (wok_advance (h.wok i w hw))
    | wErrC i w hw | wErrR i w hw => exact forall_set h.wok (wok_done (h.wok i w hw))
    | rStart => exact wok_init P true
    | _ => exact h.wok
  idle := by
    cases hI with
    | wLocal _ _ _ _ hw hl => exact h.idle_set hw hl.active.2 hl.ne_idle
    | wGiveC _ w _ hw hp | wGiveR _ w _ hw hp => exact h.idle_set hw (by simp [hp]) (advance_ne_idle P w)
    | wErrC _ _ hw hp | wErrR _ _ hw hp => exact h.idle_set hw (by simp [hp]) (by simp)
    | rStart => exact fun i w hw => by obtain ⟨_, rfl⟩ := initWorkers_get hw; exact initWorker_idle_iff P true i
    | _ => exact h.idle
  cd := by
    cases hI with
    | wLocal _ _ _ _ hw hl => exact fun hc => absurd hc (h.not_closed_of hw hl.active.1)
    | wGiveC _ _ _ hw hp | wGiveR _ _ _ hw hp | wErrC _ _ hw hp | wErrR _ _ hw hp =>
      exact fun hc => absurd hc (h.not_closed_of hw (by simp [hp]))
    | closer _ _ hall => exact fun _ => hall
    | rStart _ hr => exact fun hc => absurd hc (by rw [h.st (hr ▸ h.rp : RPhaseOk P s .f2).2.1]; decide)
    | _ => exact h.cd
  st := by
    cases hI with
    | closer hs => exact fun hs' => absurd hs (by rw [show s.started = false from hs']; decide)
    | rStart => exact fun hs => by cases hs
    | _ => exact h.st

/-- the row of the table for the phase the re-orderer is in -/
theorem Inv.rp_at {P s r} (h : Inv P s) (hr : s.rph = r) : RPhaseOk P s r := hr ▸ h.rp

theorem Inv.absent {P s} (h : Inv P s) (hm : P.mode = .unordered) : s.rph = .absent := by
  have := h.rp
  cases hr : s.rph <;> simp_all [RPhaseOk]

/-- `UpdateUtxos` cancels its context only as the last thing it does -/
theorem Inv.of_cancel1 {P s} (h : Inv P s) (hc : s.cancel1 = true) : P.mode = .utxo ∧ s.cph = .finished := by
  have := h.cp
  cases hcp : s.cph <;> rw [hcp] at this <;> simp only [CPhaseOk] at this
  case finished => split at this <;> simp_all
  all_goals simp_all

theorem Inv.ended_iff {P s} (h : Inv P s) (hm : P.mode ≠ .utxo) : s.ended = true ↔ s.cph = .finished := by
  have := h.cp
  cases hcp : s.cph <;> rw [hcp] at this <;> simp_all [CPhaseOk]

/-- the end of the stream is seen, and signalled, only on a closed stream -/
theorem Inv.closed_of_end {P s} (h : Inv P s) (he : s.cph = .gotEnd ∨ s.ended = true) : s.streamClosed P = true := by
  have := h.cp
  cases hcp : s.cph <;> rw [hcp] at this <;> simp only [CPhaseOk] at this
  case finished => split at this <;> simp_all
  all_goals simp_all

/-- with a re-orderer, the consumer's stream is closed only by the re-orderer's deferred function -/
theorem Inv.fin_of_streamClosed {P s} (h : Inv P s) (hm : P.mode ≠ .unordered) (hc : s.streamClosed P = true) :
    s.rph = .fin := by
  have := h.rp
  cases hr : s.rph <;> rw [hr] at this <;> simp_all [RPhaseOk, State.streamClosed]

theorem reachable_inv {P : Params} (hP : P.lo ≤ P.hi) {s} (hr : Reachable P s) : Inv P s := by
  induction hr with
  | init => exact inv_init hP
  | step _ hst ih => exact inv_step ih (step_inv hP hst)

end BtcVerif.Model.Stream
