import BtcVerif.Proofs.NoPanic
import BtcVerif.Proofs.Script

/-! C17: panic freedom of the script readers `ReadData`, `ReadNumber`, `Stackify` (`Decompile` and `StripOpCode`
    have theirs in Proofs/Script.lean). -/
namespace BtcVerif.Model
open BtcVerif BtcVerif.Parser
open BtcVerif.Gen.Guards
open BtcVerif.Proofs.Script (decompile_ne_panic strip_ne_panic)

theorem readData_ne_panic (s : Bytes) : readData s ≠ .panic := by
  unfold readData
  cases s with
  | nil => simp
  | cons b rest =>
    simp only
    cases sizeFieldLen b with
    | none => simp
    | some k =>
      simp only
      split
      · exact readN_ne_panic _ _
      · exact NoPanic.bind (noPanic_readLE k) (fun n => noPanic_readN n) rest

/-- the `if`s of the readers below end in `.ok`/`.err` leaves (closed by `nofun`) or in another reader -/
theorem ite_ne_panic {α} (c : Prop) [Decidable c] {x y : Outcome α} (hx : x ≠ .panic) (hy : y ≠ .panic) :
    (if c then x else y) ≠ .panic := by
  split <;> assumption

theorem numLoop_ne_panic (len : Nat) (d : Bytes) : ∀ i neg mag, numLoop len i d neg mag ≠ .panic := by
  induction d with
  | nil => exact fun _ _ _ => nofun
  | cons b bs ih =>
    intro i neg mag
    unfold numLoop
    exact ite_ne_panic _ (ite_ne_panic _ nofun nofun) (ih _ _ _)

theorem decodeNum_ne_panic (d : Bytes) : decodeNum d ≠ .panic := by
  unfold decodeNum
  refine ite_ne_panic _ nofun ?_
  split
  · exact ite_ne_panic _ (ite_ne_panic _ nofun nofun) (ite_ne_panic _ nofun nofun)
  · nofun
  · rename_i h; exact absurd h (numLoop_ne_panic d.length d 0 false 0)

theorem readNumber_ne_panic (s : Bytes) : readNumber s ≠ .panic := by
  unfold readNumber
  cases s with
  | nil => nofun
  | cons b rest =>
    refine ite_ne_panic _ nofun (ite_ne_panic _ nofun (ite_ne_panic _ nofun ?_))
    split
    · exact Outcome.bind_ne_panic (decodeNum_ne_panic _) fun _ => nofun
    · nofun
    · rename_i h; exact absurd h (readData_ne_panic (b :: rest))

theorem stackItem_ne_panic (c : Chunk) : stackItem c ≠ .panic := by
  unfold stackItem
  cases c with
  | push d => simp
  | op b =>
    simp only
    cases parsePushIntOpCode b with
    | none => simp
    | some v => simp only; split <;> simp

theorem stackItems_ne_panic (cs : List Chunk) : stackItems cs ≠ .panic := by
  induction cs with
  | nil => nofun
  | cons c cs ih => exact Outcome.bind_ne_panic (stackItem_ne_panic c) fun _ => Outcome.bind_ne_panic ih fun _ => nofun

theorem stackify_ne_panic (s : Bytes) : stackify s ≠ .panic :=
  Outcome.bind_ne_panic (decompile_ne_panic s) stackItems_ne_panic

end BtcVerif.Model
