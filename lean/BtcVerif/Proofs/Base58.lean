/-
  Base58 and Base58Check. Both round trips go through one normal form: every byte string is `k` zero
  bytes followed by the minimal big-endian bytes of a number `n` (`bytesOf k n`), every accepted
  string is `k` ones followed by the base-58 digits of `n` (`strOf k n`), and `encode` and `decode`
  exchange the two.
-/
import BtcVerif.Model.Base58
import BtcVerif.Proofs.Digits

namespace BtcVerif.Proofs.Base58
open BtcVerif BtcVerif.Model BtcVerif.Model.Base58 BtcVerif.Gen.Guards BtcVerif.Proofs.Digits

theorem indexOf_spec : ∀ (l : Bytes) (c : UInt8) (i : Nat),
    indexOf l c = some i → i < l.length ∧ l[i]? = some c := by
  intro l
  induction l with
  | nil => intro c i h; simp [indexOf] at h
  | cons a as ih =>
    intro c i h
    unfold indexOf at h
    split at h
    · rename_i hac
      injection h with h; subst h
      have : a = c := by simpa using hac
      simp [this]
    · cases hr : indexOf as c with
      | none => rw [hr] at h; simp at h
      | some j =>
        rw [hr] at h; simp at h; subst h
        obtain ⟨h1, h2⟩ := ih c j hr
        rw [List.getElem?_eq_getElem h1] at h2
        injection h2 with h2
        simp [h1, h2]

theorem indexOf_isSome (l : Bytes) (c : UInt8) : (indexOf l c).isSome = l.contains c := by
  induction l with
  | nil => rfl
  | cons a as ih =>
    rw [indexOf, List.contains_cons, ← ih, Bool.beq_comm (a := c)]
    cases a == c
    · cases indexOf as c <;> rfl
    · rfl

def dchar (d : Nat) : UInt8 := if h : d < radix then digitChar d h else 0

theorem alphabet_nodup : alphabet.Nodup := by decide +kernel

theorem indexOf_getElem : ∀ (l : Bytes), l.Nodup → ∀ (d : Nat) (h : d < l.length), indexOf l l[d] = some d
  | a :: as, hnd, 0, _ => by simp [indexOf]
  | a :: as, hnd, d + 1, h => by
    obtain ⟨ha, hnd⟩ := List.nodup_cons.mp hnd
    have hd : d < as.length := Nat.lt_of_succ_lt_succ h
    have hne : (a == as[d]) = false := beq_false_of_ne fun he => ha (he ▸ List.getElem_mem hd)
    rw [List.getElem_cons_succ, indexOf, hne, indexOf_getElem as hnd d hd]
    rfl

theorem dchar_eq {d : Nat} (h : d < alphabet.length) : dchar d = alphabet[d] := dif_pos h

theorem indexOf_dchar (d : Nat) (h : d < 58) : indexOf alphabet (dchar d) = some d := by
  rw [← alphabet_length] at h
  rw [dchar_eq h, indexOf_getElem alphabet alphabet_nodup d h]

theorem dchar_idx {c : UInt8} {i : Nat} (h : indexOf alphabet c = some i) : dchar i = c ∧ i < 58 := by
  obtain ⟨hlt, hget⟩ := indexOf_spec _ _ _ h
  have hlt' : i < radix := hlt
  refine ⟨?_, by rw [alphabet_length] at hlt; exact hlt⟩
  unfold dchar digitChar
  rw [dif_pos hlt']
  rw [List.getElem?_eq_getElem hlt] at hget
  injection hget

def idx (c : UInt8) : Nat := (indexOf alphabet c).getD 0

theorem idx_dchar {d : Nat} (h : d < 58) : idx (dchar d) = d := by
  simp [idx, indexOf_dchar d h]

theorem dchar_inj0 {d : Nat} (h : d < 58) (h0 : dchar d = dchar 0) : d = 0 := by
  have := idx_dchar h
  rw [h0, idx_dchar (by decide)] at this
  exact this.symm

theorem one_eq : digitChar 0 (by decide) = dchar 0 :=
  (dchar_eq (by rw [alphabet_length]; decide)).symm

theorem encLoop_zero (acc : Bytes) : encLoop 0 acc = acc := by
  rw [encLoop]; rfl

theorem encLoop_step (n : Nat) (acc : Bytes) (hn : n ≠ 0) :
    encLoop n acc = encLoop (n / 58) (dchar (n % 58) :: acc) := by
  have hg : base58_Encode_1 (call_bi_Cmp_zero := if n = 0 then 0 else 1) = true := by
    simp [base58_Encode_1, hn]
  rw [encLoop, dif_pos hg, dchar_eq (alphabet_length ▸ Nat.mod_lt n (by decide))]
  rfl

theorem encLoop_eq (n : Nat) : ∀ acc, encLoop n acc = (toDigits 58 n []).map dchar ++ acc :=
  accLoop_eq (by decide) dchar encLoop encLoop_zero encLoop_step n

theorem natBytesAux_eq (n : Nat) :
    ∀ acc, natBytesAux n acc = (toDigits 256 n []).map UInt8.ofNat ++ acc :=
  accLoop_eq (by decide) UInt8.ofNat natBytesAux (fun acc => by rw [natBytesAux, dif_pos rfl])
    (fun n acc hn => by rw [natBytesAux, dif_neg hn]) n

theorem natBytes_eq (n : Nat) : natBytes n = (toDigits 256 n []).map UInt8.ofNat := by
  simp [natBytes, natBytesAux_eq]

theorem natBytes_zero : natBytes 0 = [] := by
  rw [natBytes_eq, toDigits_zero]; rfl

theorem natBytes_of_lt {v : Nat} (h0 : v ≠ 0) (h : v < 256) : natBytes v = [UInt8.ofNat v] := by
  rw [natBytes_eq, toDigits_step (by decide) h0, Nat.div_eq_of_lt h, Nat.mod_eq_of_lt h, toDigits_zero]; rfl

theorem beNat_natBytes (n : Nat) : beNat (natBytes n) = n := by
  rw [beNat_eq, natBytes_eq, map_map_cancel fun d hd => UInt8.toNat_ofNat_of_lt' (toDigits_lt (by decide) n d hd),
    ofDigits_toDigits (by decide)]

theorem natBytes_head (n : Nat) : (natBytes n).head? ≠ some 0 := by
  rw [natBytes_eq]
  have h := toDigits_head (b := 256) (by decide) n
  have hl := toDigits_lt (b := 256) (by decide) n
  cases hd : toDigits 256 n [] with
  | nil => simp
  | cons x xs =>
    rw [hd] at h hl
    have hx : x < 256 := hl x (by simp)
    have hx0 : x ≠ 0 := by simpa using h
    simp only [List.map_cons, List.head?_cons, ne_eq, Option.some.injEq]
    intro hc
    have : (UInt8.ofNat x).toNat = x := UInt8.toNat_ofNat_of_lt' hx
    rw [hc] at this
    simp at this; omega

theorem leadingZeros_split (bs : Bytes) :
    bs = List.replicate (leadingZeros bs) 0 ++ bs.drop (leadingZeros bs) ∧
    (bs.drop (leadingZeros bs)).head? ≠ some 0 := by
  induction bs with
  | nil => simp [leadingZeros]
  | cons b bs ih =>
    unfold leadingZeros
    by_cases hb : b = 0
    · subst hb
      simp only [base58_Encode_2]
      simp only [show ((0 : UInt8).toNat = 0) from rfl, decide_true, if_true, List.replicate_succ,
        List.drop_succ_cons, List.cons_append]
      exact ⟨by rw [← ih.1], ih.2⟩
    · have : ¬ b.toNat = 0 := by
        intro h; apply hb
        exact UInt8.toNat_inj.mp (by simpa using h)
      simp [base58_Encode_2, this, hb]

theorem leadingZeros_replicate (k : Nat) (rest : Bytes) (h : rest.head? ≠ some 0) :
    leadingZeros (List.replicate k 0 ++ rest) = k := by
  induction k with
  | zero =>
    cases rest with
    | nil => simp [leadingZeros]
    | cons b bs =>
      have hb : ¬ b = 0 := by simpa using h
      have : ¬ b.toNat = 0 := by
        intro h'; apply hb
        exact UInt8.toNat_inj.mp (by simpa using h')
      simp [leadingZeros, base58_Encode_2, this]
  | succ k ih =>
    rw [List.replicate_succ, List.cons_append]
    unfold leadingZeros
    simp [base58_Encode_2, ih]

theorem countOnes_replicate (k : Nat) (rest : Bytes) (h : rest.head? ≠ some (dchar 0)) :
    countOnes (List.replicate k (dchar 0) ++ rest) = k := by
  induction k with
  | zero =>
    cases rest with
    | nil => simp [countOnes]
    | cons c cs =>
      have hc : ¬ c = dchar 0 := by simpa using h
      simp [countOnes, one_eq, hc]
  | succ k ih =>
    rw [List.replicate_succ, List.cons_append]
    unfold countOnes
    simp [one_eq, ih]

theorem countOnes_split (s : Bytes) :
    s = List.replicate (countOnes s) (dchar 0) ++ s.drop (countOnes s) ∧
    (s.drop (countOnes s)).head? ≠ some (dchar 0) := by
  induction s with
  | nil => simp [countOnes]
  | cons c cs ih =>
    unfold countOnes
    by_cases hc : c = dchar 0
    · subst hc
      simp only [one_eq, BEq.rfl, if_true, List.replicate_succ, List.drop_succ_cons, List.cons_append]
      exact ⟨by rw [← ih.1], ih.2⟩
    · simp [one_eq, hc]

theorem decLoop_ok (cs : Bytes) (hall : ∀ c ∈ cs, (indexOf alphabet c).isSome) :
    ∀ i ret, decLoop cs i ret = .ok (ret + 58 ^ i * ofDigits 58 (cs.map idx).reverse) := by
  induction cs with
  | nil => intro i ret; rfl
  | cons c cs ih =>
    intro i ret
    obtain ⟨hc, hcs⟩ := List.forall_mem_cons.mp hall
    obtain ⟨m, hi⟩ := Option.isSome_iff_exists.mp hc
    rw [decLoop, hi]
    simp only
    rw [ih hcs, List.map_cons, List.reverse_cons, ofDigits_snoc, idx, hi, Option.getD_some, radix_eq,
      Nat.pow_succ, Nat.mul_add, Nat.mul_assoc, Nat.mul_comm 58, Nat.mul_comm m, Nat.add_assoc,
      Nat.add_comm (58 ^ i * m)]

theorem decLoop_err (cs : Bytes) (hex : ∃ c ∈ cs, indexOf alphabet c = none) :
    ∀ i ret, decLoop cs i ret = .err := by
  induction cs with
  | nil => simp at hex
  | cons c cs ih =>
    intro i ret
    unfold decLoop
    cases hi : indexOf alphabet c with
    | none => rfl
    | some m =>
      simp only
      apply ih
      obtain ⟨x, hx, hxn⟩ := hex
      simp at hx
      rcases hx with hx | hx
      · subst hx; rw [hi] at hxn; cases hxn
      · exact ⟨x, hx, hxn⟩

theorem decLoop_ne_panic (cs : Bytes) : ∀ i ret, decLoop cs i ret ≠ .panic := by
  induction cs with
  | nil => intro i ret; simp [decLoop]
  | cons c cs ih =>
    intro i ret
    unfold decLoop
    split
    · simp
    · exact ih _ _

theorem decLoop_rev (s : Bytes) (hall : ∀ c ∈ s, (indexOf alphabet c).isSome) :
    decLoop s.reverse 0 0 = .ok (ofDigits 58 (s.map idx)) := by
  rw [decLoop_ok s.reverse (by simpa using hall), List.map_reverse, List.reverse_reverse]
  simp

def bytesOf (k n : Nat) : Bytes := List.replicate k 0 ++ natBytes n

def strOf (k n : Nat) : Bytes := List.replicate k (dchar 0) ++ (toDigits 58 n []).map dchar

theorem natBytes_beNat (bs : Bytes) (h : bs.head? ≠ some 0) : natBytes (beNat bs) = bs := by
  rw [natBytes_eq, beNat_eq, toDigits_ofDigits (by decide) _ (List.forall_mem_map.mpr fun b _ => b.toNat_lt),
    map_map_cancel fun _ _ => UInt8.ofNat_toNat]
  cases bs with
  | nil => nofun
  | cons b _ =>
    exact fun (hb : some b.toNat = some 0) =>
      h (congrArg some (UInt8.toNat_inj.mp (Option.some.inj hb : b.toNat = (0 : UInt8).toNat)))

theorem exists_bytesOf (bs : Bytes) : ∃ k n, bs = bytesOf k n := by
  obtain ⟨hsplit, hhead⟩ := leadingZeros_split bs
  refine ⟨leadingZeros bs, beNat (bs.drop (leadingZeros bs)), ?_⟩
  rw [bytesOf, natBytes_beNat _ hhead, ← hsplit]

theorem beNat_bytesOf (k n : Nat) : beNat (bytesOf k n) = n := by
  rw [bytesOf, beNat_eq, List.map_append, List.map_replicate, show (0 : UInt8).toNat = 0 from rfl,
    ofDigits_replicate_zero, ← beNat_eq, beNat_natBytes]

theorem encode_bytesOf (k n : Nat) : encode (bytesOf k n) = strOf k n := by
  rw [encode, beNat_bytesOf, encLoop_eq, one_eq, List.append_nil, bytesOf,
    leadingZeros_replicate _ _ (natBytes_head n), strOf]

theorem map_dchar_head (n : Nat) : ((toDigits 58 n []).map dchar).head? ≠ some (dchar 0) := by
  have hlt := toDigits_lt (b := 58) (by decide) n
  have hh := toDigits_head (b := 58) (by decide) n
  cases hd : toDigits 58 n [] with
  | nil => nofun
  | cons x xs =>
    rw [hd] at hlt hh
    exact fun h => hh (by rw [List.head?_cons, dchar_inj0 (hlt x (List.mem_cons_self ..)) (Option.some.inj h)])

theorem decode_strOf (k n : Nat) : decode (strOf k n) = .ok (bytesOf k n) := by
  have hlt := toDigits_lt (b := 58) (by decide) n
  have hall : ∀ c ∈ (toDigits 58 n []).map dchar, (indexOf alphabet c).isSome :=
    List.forall_mem_map.mpr fun d hd => by rw [indexOf_dchar d (hlt d hd)]; rfl
  simp only [decode, strOf, countOnes_replicate _ _ (map_dchar_head n),
    List.drop_left' (List.length_replicate ..), decLoop_rev _ hall,
    map_map_cancel fun d hd => idx_dchar (hlt d hd), ofDigits_toDigits (b := 58) (by decide), bytesOf]

theorem decode_ok_inv {s bs : Bytes} (h : decode s = .ok bs) : ∃ k n, s = strOf k n := by
  obtain ⟨hsplit, hhead⟩ := countOnes_split s
  rw [decode] at h
  generalize s.drop (countOnes s) = rest at hsplit hhead h
  have hidx : ∀ c ∈ rest, dchar (idx c) = c ∧ idx c < 58 := by
    intro c hc
    cases hi : indexOf alphabet c with
    | some i => rw [idx, hi]; exact dchar_idx hi
    | none => rw [decLoop_err rest.reverse ⟨c, List.mem_reverse.mpr hc, hi⟩ 0 0] at h; cases h
  refine ⟨countOnes s, ofDigits 58 (rest.map idx), ?_⟩
  rw [strOf, toDigits_ofDigits (by decide) _ (List.forall_mem_map.mpr fun c hc => (hidx c hc).2),
    map_map_cancel fun c hc => (hidx c hc).1]
  · exact hsplit
  · cases rest with
    | nil => nofun
    | cons c cs =>
      intro h0
      rw [List.map_cons, List.head?_cons] at h0
      exact hhead (by rw [List.head?_cons, ← (hidx c (List.mem_cons_self ..)).1, Option.some.inj h0])

theorem decode_encode (bs : Bytes) : decode (encode bs) = .ok bs := by
  obtain ⟨k, n, rfl⟩ := exists_bytesOf bs
  rw [encode_bytesOf, decode_strOf]

theorem encode_decode (s bs : Bytes) (h : decode s = .ok bs) : encode bs = s := by
  obtain ⟨k, n, rfl⟩ := decode_ok_inv h
  rw [decode_strOf] at h
  cases h
  exact encode_bytesOf k n

theorem decode_ne_panic (s : Bytes) : decode s ≠ .panic := by
  unfold decode
  simp only
  have := decLoop_ne_panic (s.drop (countOnes s)).reverse 0 0
  split <;> simp_all

/-- three Base58 characters carry at least two bytes -/
theorem pow58_ge (k : Nat) : 256 ^ (2 * (k / 3)) ≤ 58 ^ k := by
  have h3 : (256 : Nat) ^ 2 ≤ 58 ^ 3 := by decide
  have : 256 ^ (2 * (k / 3)) ≤ 58 ^ (3 * (k / 3)) := by
    rw [Nat.pow_mul, Nat.pow_mul]
    exact Nat.pow_le_pow_left h3 _
  exact Nat.le_trans this (Nat.pow_le_pow_right (by decide) (Nat.mul_div_le k 3))

/-- a string of at least 41 characters decodes to at least 27 bytes: more than the 25 or 26 bytes (one- or
    two-byte version, 20-byte hash, four checksum bytes) of a Base58Check address, which is what
    `Proofs/AddressSegwit.lean` needs to tell long Base58 strings from addresses -/
theorem decode_length_ge (s bs : Bytes) (h : decode s = .ok bs) (hl : 41 ≤ s.length) : 27 ≤ bs.length := by
  obtain ⟨k, n, rfl⟩ := decode_ok_inv h
  rw [decode_strOf] at h
  cases h
  simp only [strOf, bytesOf, natBytes_eq, List.length_append, List.length_replicate, List.length_map] at hl ⊢
  by_cases hn : n = 0
  · rw [hn, toDigits_zero, List.length_nil] at hl ⊢
    omega
  · -- 256 ^ (2 * ((d58 - 1) / 3)) ≤ 58 ^ (d58 - 1) ≤ n < 256 ^ d256
    have h1 := pow_le_of_toDigits (b := 58) (by decide) hn
    have h2 := toDigits_length_lt (b := 256) (by decide) n
    have h3 := pow58_ge ((toDigits 58 n []).length - 1)
    have := (Nat.pow_lt_pow_iff_right (a := 256) (by decide)).mp (Nat.lt_of_le_of_lt (Nat.le_trans h3 h1) h2)
    omega

namespace Check
open BtcVerif.Model.Base58Check

theorem decode_of_base58 (ck : Bytes → Bytes) (s dec : Bytes) (h : Base58.decode s = .ok dec) :
    Base58Check.decode ck s =
      if dec.length < 4 then .err
      else if ck (dec.take (dec.length - 4)) = dec.drop (dec.length - 4) then
        .ok (dec.take (dec.length - 4)) else .err := by
  unfold Base58Check.decode
  rw [h]
  simp only [base58check_Decode_0, base58check_Decode_1]
  by_cases h4 : dec.length < 4
  · have : ((dec.length : Int) < 4) := by omega
    simp [h4, this]
  · have : ¬ ((dec.length : Int) < 4) := by omega
    simp only [this, decide_false, h4, if_false]
    by_cases hc : ck (dec.take (dec.length - 4)) = dec.drop (dec.length - 4)
    · simp [hc]
    · simp [hc]

theorem decode_encode (ck : Bytes → Bytes) (hck : ∀ x, (ck x).length = 4) (d : Bytes) :
    Base58Check.decode ck (Base58Check.encode ck d) = .ok d := by
  unfold Base58Check.encode
  rw [decode_of_base58 ck _ _ (Base58.decode_encode (d ++ ck d))]
  have hl : (d ++ ck d).length - 4 = d.length := by simp [hck]
  rw [hl]
  have h4 : ¬ (d ++ ck d).length < 4 := by simp [hck]
  rw [if_neg h4]
  simp

theorem encode_decode (ck : Bytes → Bytes) (s d : Bytes)
    (h : Base58Check.decode ck s = .ok d) : Base58Check.encode ck d = s := by
  cases hb : Base58.decode s with
  | err => unfold Base58Check.decode at h; rw [hb] at h; cases h
  | panic => unfold Base58Check.decode at h; rw [hb] at h; cases h
  | ok dec =>
    rw [decode_of_base58 ck s dec hb] at h
    split at h
    · cases h
    · split at h
      · rename_i hc
        injection h with h
        subst h
        unfold Base58Check.encode
        rw [hc, List.take_append_drop]
        exact Base58.encode_decode s dec hb
      · cases h

theorem rejects_bad_checksum (ck : Bytes → Bytes) (s dec : Bytes) (h : Base58.decode s = .ok dec)
    (hbad : ck (dec.take (dec.length - 4)) ≠ dec.drop (dec.length - 4)) :
    Base58Check.decode ck s = .err := by
  rw [decode_of_base58 ck s dec h]
  split
  · rfl
  · simp [hbad]

theorem decode_ne_panic (ck : Bytes → Bytes) (s : Bytes) : Base58Check.decode ck s ≠ .panic := by
  cases hb : Base58.decode s with
  | err => unfold Base58Check.decode; rw [hb]; simp
  | panic => exact absurd hb (Base58.decode_ne_panic s)
  | ok dec =>
    rw [decode_of_base58 ck s dec hb]
    split
    · simp
    · split <;> simp

theorem versionBytes_length (v : Nat) : (versionBytes v).length = if v ≤ 255 then 1 else 2 := by
  unfold versionBytes
  simp only [base58check_EncodeVersion_0]
  by_cases h : v ≤ 255 <;> simp [h]

end Check

end BtcVerif.Proofs.Base58
