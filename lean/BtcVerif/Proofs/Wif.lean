/-
  WIF strings (C10): `Decode` is the Base58Check decoder followed by a split of the payload into
  version byte, key and compression flag.
-/
import BtcVerif.Model.Wif
import BtcVerif.Proofs.CheckPayload

namespace BtcVerif.Proofs.Wif
open BtcVerif BtcVerif.Model BtcVerif.Model.Wif BtcVerif.Gen.Guards
open BtcVerif.Proofs.CheckPayload

/-- `Decode` after the checksum test, without the model's bounds checks (`decode_eq` discharges them) -/
def splitWif : Bytes → Outcome (Bytes × Nat × Bool)
  | [] => .err
  | version :: rest =>
    if rest.length = 32 then .ok (rest, version.toNat, false)
    else if rest.length = 33 then
      if rest[32]? = some 1 then .ok (rest.take 32, version.toNat, true) else .err
    else .err

theorem decode_eq (ck : Bytes → Bytes) (s : Bytes) :
    decode ck s = Base58Check.decode ck s >>= splitWif := by
  unfold decode
  cases Base58Check.decode ck s with
  | err => rfl
  | panic => rfl
  | ok d =>
    simp only [Outcome.bind_ok, splitWif, wif_Decode_0, wif_Decode_1, wif_Decode_2]
    cases d with
    | nil => simp
    | cons version rest =>
      simp only [List.length_cons]
      by_cases h32 : rest.length = 32
      · simp [h32]
        exact List.take_of_length_le (by omega)
      · by_cases h33 : rest.length = 33
        · have hlt : 32 < rest.length := by omega
          simp only [h33, if_true, List.getElem?_cons_succ]
          rw [List.getElem?_eq_getElem hlt]
          simp [← UInt8.toNat_inj]
        · have hc : ((rest.length : Int) + 1 < 33) ∨ ((rest.length : Int) + 1 > 34) := by omega
          rcases hc with hc | hc <;> simp [hc, h32, h33]

theorem encode_eq (ck : Bytes → Bytes) (k : Bytes) (v : Nat) (c : Bool) :
    encode ck k v c =
      if k.length = 32 then .ok (Base58Check.encodeVersion ck (k ++ if c then [1] else []) v) else .err := by
  have hg : wif_encode_0 (privkey_isnil := false) (len_privkey := k.length) = decide (k.length ≠ 32) := by
    simp only [wif_encode_0, Bool.false_or]
    exact lenGuard _ 32
  unfold encode
  simp only [hg, decide_eq_true_eq, wif_encode_1]
  by_cases hk : k.length = 32 <;> cases c <;> simp [hk]

theorem splitWif_payload (k : Bytes) (hk : k.length = 32) (version : UInt8) (c : Bool) :
    splitWif (version :: (k ++ if c then [1] else [])) = .ok (k, version.toNat, c) := by
  cases c with
  | false => simp [splitWif, hk]
  | true =>
    have h3 : (k ++ [(1 : UInt8)])[32]? = some 1 := by
      rw [List.getElem?_append_right (by omega)]; simp [hk]
    simp only [splitWif, if_true, List.length_append, hk, List.length_cons, List.length_nil, h3,
      List.take_left' hk]
    rfl

theorem splitWif_ok {d k : Bytes} {v : Nat} {c : Bool} (h : splitWif d = .ok (k, v, c)) :
    k.length = 32 ∧ v < 256 ∧ UInt8.ofNat v :: (k ++ if c then [1] else []) = d := by
  unfold splitWif at h
  cases d with
  | nil => cases h
  | cons version rest =>
    simp only at h
    split at h
    · rename_i h32
      obtain ⟨rfl, hvc⟩ := Prod.mk.inj (Outcome.ok.inj h)
      obtain ⟨rfl, rfl⟩ := Prod.mk.inj hvc
      exact ⟨h32, version.toNat_lt, by simp⟩
    · split at h
      · rename_i h33
        split at h
        · rename_i hflag
          obtain ⟨rfl, hvc⟩ := Prod.mk.inj (Outcome.ok.inj h)
          obtain ⟨rfl, rfl⟩ := Prod.mk.inj hvc
          obtain ⟨k, t, rfl, hk, ht⟩ := exists_append (n := 32) (m := 1) rest h33
          obtain ⟨x, rfl⟩ := List.length_eq_one_iff.mp ht
          rw [List.getElem?_append_right (Nat.le_of_eq hk), hk] at hflag
          obtain rfl : x = 1 := Option.some.inj hflag
          rw [List.take_left' hk]
          exact ⟨hk, version.toNat_lt, by simp⟩
        · cases h
      · cases h

theorem splitWif_accepts_iff (d : Bytes) :
    (∃ r, splitWif d = .ok r) ↔ d.length = 33 ∨ (d.length = 34 ∧ d[33]? = some 1) := by
  cases d with
  | nil => exact ⟨fun ⟨_, h⟩ => (nomatch h), fun h => by simp at h⟩
  | cons version rest =>
    simp only [splitWif, List.length_cons, List.getElem?_cons_succ]
    by_cases h32 : rest.length = 32
    · rw [if_pos h32]
      exact ⟨fun _ => Or.inl (by omega), fun _ => ⟨_, rfl⟩⟩
    · rw [if_neg h32]
      by_cases h33 : rest.length = 33
      · rw [if_pos h33]
        by_cases hf : rest[32]? = some 1
        · rw [if_pos hf]
          exact ⟨fun _ => Or.inr ⟨by omega, hf⟩, fun _ => ⟨_, rfl⟩⟩
        · rw [if_neg hf]
          exact ⟨fun ⟨_, h⟩ => (nomatch h), fun h => h.elim (by omega) (fun h => absurd h.2 hf)⟩
      · rw [if_neg h33]
        exact ⟨fun ⟨_, h⟩ => (nomatch h), fun h => by omega⟩

theorem splitWif_ne_panic (d : Bytes) : splitWif d ≠ .panic := by
  unfold splitWif
  cases d with
  | nil => exact nofun
  | cons version rest =>
    simp only
    split
    · exact nofun
    · split
      · split <;> exact nofun
      · exact nofun

end BtcVerif.Proofs.Wif
