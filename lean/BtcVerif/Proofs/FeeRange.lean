/-
  C15 — `FeeRangeForBlock`: the loop folds the minimum and the maximum of the per-transaction fee
  rates (ordered as binary64 values by `F64.key`); on non-negative rates the `-1.0` sentinel is replaced
  by the first rate and never compares equal to a rate; actual fee rates are non-negative.
-/
import BtcVerif.Proofs.F64
import BtcVerif.Proofs.Fee

namespace BtcVerif.Proofs.FeeRange
open BtcVerif BtcVerif.Model BtcVerif.Model.Fee BtcVerif.Prim BtcVerif.Proofs.F64

/-- a non-negative number or +∞ (what a fee rate is) -/
def NonNeg : F64 → Prop
  | .fin false _ _ => True
  | .inf false => True
  | _ => False

instance : DecidablePred NonNeg := fun x => by
  cases x with
  | nan => exact isFalse (by simp [NonNeg])
  | inf neg => cases neg <;> simp [NonNeg] <;> infer_instance
  | fin neg m e => cases neg <;> simp [NonNeg] <;> infer_instance

theorem key_nonneg : ∀ {x : F64}, NonNeg x → 0 ≤ F64.key x
  | .inf false, _ => Int.natCast_nonneg _
  | .fin false _ _, _ => Int.natCast_nonneg _
  | .nan, h | .inf true, h | .fin true _ _, h => h.elim

theorem key_minusOne_neg : F64.key minusOne < 0 := by
  simp only [minusOne, F64.key, if_true]
  have : 0 < 2 ^ 52 * 2 ^ ((-52 : ℤ) + 1074).toNat := Nat.mul_pos (Nat.two_pow_pos _) (Nat.two_pow_pos _)
  omega

theorem lt_eq_of_nonneg {a b : F64} (ha : NonNeg a) (hb : NonNeg b) :
    F64.lt a b = decide (F64.key a < F64.key b) := by
  cases a with
  | nan => exact False.elim ha
  | _ =>
    cases b with
    | nan => exact False.elim hb
    | _ => rfl

theorem eq_minusOne_of_nonneg {a : F64} (ha : NonNeg a) : F64.eq a minusOne = false := by
  have h1 := key_nonneg ha
  have h2 := key_minusOne_neg
  cases a with
  | nan => exact ha.elim
  | _ => exact decide_eq_false (by omega)

theorem eq_minusOne_self : F64.eq minusOne minusOne = true := by simp [F64.eq, minusOne]

/-- the two components of `feeRangeLoop` as folds over the rates -/
def maxLoop (rs : List F64) (mx : F64) : F64 := rs.foldl (fun mx r => if F64.lt mx r then r else mx) mx
def minLoop (rs : List F64) (mn : F64) : F64 :=
  rs.foldl (fun mn r => if F64.lt r mn || F64.eq mn minusOne then r else mn) mn

def ratesOf (get : PrevOut → Option Nat) : List Tx → Option (List F64)
  | [] => some []
  | t :: rest =>
    match feePerVByte get t, ratesOf get rest with
    | .ok r, some rs => some (r :: rs)
    | _, _ => none

theorem feePerVByte_ne_panic (get : PrevOut → Option Nat) (t : Tx) : feePerVByte get t ≠ .panic := by
  unfold feePerVByte
  have := Proofs.Fee.totalFeeValue_ne_panic get t
  cases h : totalFeeValue get t <;> simp_all

theorem feeRangeLoop_eq (get : PrevOut → Option Nat) (txs : List Tx) (mn mx : F64) :
    feeRangeLoop get txs mn mx =
      match ratesOf get txs with
      | some rs => .ok (minLoop rs mn, maxLoop rs mx)
      | none => .err := by
  induction txs generalizing mn mx with
  | nil => rfl
  | cons t rest ih =>
    rw [feeRangeLoop, ratesOf]
    cases hr : feePerVByte get t with
    | ok r =>
      simp only [ih]
      cases ratesOf get rest <;> rfl
    | err => rfl
    | panic => exact absurd hr (feePerVByte_ne_panic get t)

theorem mem_ratesOf {get : PrevOut → Option Nat} {txs : List Tx} {rs : List F64} (h : ratesOf get txs = some rs)
    {r : F64} (hr : r ∈ rs) : ∃ t ∈ txs, feePerVByte get t = .ok r := by
  induction txs generalizing rs with
  | nil =>
    cases h
    cases hr
  | cons t rest ih =>
    rw [ratesOf] at h
    split at h
    · rename_i r0 rs' hf hrs
      cases h
      rcases List.mem_cons.mp hr with rfl | hr
      · exact ⟨t, List.mem_cons_self, hf⟩
      · obtain ⟨t', ht', h'⟩ := ih hrs hr
        exact ⟨t', List.mem_cons_of_mem t ht', h'⟩
    · cases h

/-- a fold that keeps the element of larger `k` ends on an element of largest `k`; `maxLoop` is the case
    `k = F64.key`, `minLoop` the case `k = -F64.key` -/
theorem foldl_pick_spec (k : F64 → Int) (pick : F64 → F64 → F64)
    (hpick : ∀ a r, NonNeg a → NonNeg r → pick a r = if k a < k r then r else a)
    (rs : List F64) (a : F64) (h : ∀ r ∈ a :: rs, NonNeg r) :
    rs.foldl pick a ∈ a :: rs ∧ ∀ r ∈ a :: rs, k r ≤ k (rs.foldl pick a) := by
  induction rs generalizing a with
  | nil => exact ⟨List.mem_cons_self, fun r hr => by rw [List.mem_singleton.mp hr]; exact Int.le_refl _⟩
  | cons r rest ih =>
    obtain ⟨ha, hrs⟩ := List.forall_mem_cons.mp h
    obtain ⟨hr, hrest⟩ := List.forall_mem_cons.mp hrs
    rw [List.foldl_cons, hpick a r ha hr]
    by_cases hc : k a < k r
    · rw [if_pos hc]
      obtain ⟨h1, h2⟩ := ih r hrs
      have := h2 r List.mem_cons_self
      exact ⟨List.mem_cons_of_mem a h1, List.forall_mem_cons.mpr ⟨by omega, h2⟩⟩
    · rw [if_neg hc]
      obtain ⟨h1, h2⟩ := ih a (List.forall_mem_cons.mpr ⟨ha, hrest⟩)
      obtain ⟨h2a, h2rest⟩ := List.forall_mem_cons.mp h2
      refine ⟨?_, List.forall_mem_cons.mpr ⟨h2a, List.forall_mem_cons.mpr ⟨by omega, h2rest⟩⟩⟩
      rcases List.mem_cons.mp h1 with e | m
      · rw [e]; exact List.mem_cons_self
      · exact List.mem_cons_of_mem a (List.mem_cons_of_mem r m)

theorem maxLoop_spec (rs : List F64) (mx : F64) (h : ∀ r ∈ mx :: rs, NonNeg r) :
    maxLoop rs mx ∈ mx :: rs ∧ ∀ r ∈ mx :: rs, F64.key r ≤ F64.key (maxLoop rs mx) :=
  foldl_pick_spec F64.key (fun mx r => if F64.lt mx r then r else mx)
    (fun a r ha hr => by simp only [lt_eq_of_nonneg ha hr, decide_eq_true_eq]) rs mx h

/-- the minimum fold from a proper (non-sentinel) start: the maximum for the negated key -/
theorem minLoop_spec (rs : List F64) (mn : F64) (h : ∀ r ∈ mn :: rs, NonNeg r) :
    minLoop rs mn ∈ mn :: rs ∧ ∀ r ∈ mn :: rs, F64.key (minLoop rs mn) ≤ F64.key r := by
  obtain ⟨h1, h2⟩ := foldl_pick_spec (fun x => -F64.key x)
    (fun mn r => if F64.lt r mn || F64.eq mn minusOne then r else mn)
    (fun a r ha hr => by
      simp only [lt_eq_of_nonneg hr ha, eq_minusOne_of_nonneg ha, Bool.or_false, decide_eq_true_eq,
        Int.neg_lt_neg_iff]) rs mn h
  exact ⟨h1, fun r hr => Int.neg_le_neg_iff.mp (h2 r hr)⟩

theorem minLoop_sentinel (r : F64) (rest : List F64) : minLoop (r :: rest) minusOne = minLoop rest r := by
  have hstep : minLoop (r :: rest) minusOne =
      minLoop rest (if F64.lt r minusOne || F64.eq minusOne minusOne then r else minusOne) := rfl
  rw [hstep, eq_minusOne_self, Bool.or_true, if_pos rfl]

theorem ratesOf_cons_ne_nil (get : PrevOut → Option Nat) (t : Tx) (rest : List Tx) :
    ratesOf get (t :: rest) ≠ some [] := by
  rw [ratesOf]
  cases feePerVByte get t <;> cases ratesOf get rest <;> simp

/-- a block with transactions after the coinbase whose rates are all non-negative: the first rate
    replaces the sentinel, so the minimum is folded from it, and the maximum from the initial `0` -/
theorem feeRangeForBlock_of_rates {get : PrevOut → Option Nat} {b : Block} {cb : Tx} {rest : List Tx}
    {r0 : F64} {rs : List F64} (h : b.txs = cb :: rest) (hrs : ratesOf get rest = some (r0 :: rs))
    (hnn : ∀ r ∈ r0 :: rs, NonNeg r) :
    feeRangeForBlock get b = .ok (minLoop rs r0, maxLoop (r0 :: rs) (F64.zero false)) := by
  have hmin := hnn _ (minLoop_spec rs r0 hnn).1
  simp only [feeRangeForBlock, h, feeRangeLoop_eq, hrs, minLoop_sentinel, eq_minusOne_of_nonneg hmin]
  simp

theorem ofRat_false_nonneg (n d : Nat) : NonNeg (F64.ofRat false n d) := by
  unfold F64.ofRat
  split
  · simp [F64.zero, NonNeg]
  · simp only
    split
    · simp [NonNeg]
    · split <;> simp [NonNeg]

theorem vsizeTx_pos (t : Tx) : 0 < vsizeTx t := by
  have h8 : 8 ≤ sizeTx t false := by unfold sizeTx; omega
  unfold vsizeTx weightTx
  simp only
  omega

theorem nonNeg_div {m : Nat} (hm : m ≠ 0) (e : Int) : ∀ {a : F64}, NonNeg a → NonNeg (F64.div a (.fin false m e))
  | .inf false, _ => trivial
  | .fin false _ _, _ => by
    simp only [F64.div, hm, if_false]
    split <;> exact ofRat_false_nonneg _ _
  | .nan, h | .inf true, h | .fin true _ _, h => h.elim

/-- a fee rate is a non-negative number (never NaN, never the sentinel): the divisor `float64(vsize)`
    is exact, hence not zero -/
theorem feePerVByte_nonneg (get : PrevOut → Option Nat) (t : Tx) (r : F64) (hv : vsizeTx t < 2 ^ 53)
    (h : feePerVByte get t = .ok r) : NonNeg r := by
  unfold feePerVByte at h
  cases hf : totalFeeValue get t with
  | ok fee =>
    simp only [hf, Outcome.ok.injEq] at h
    subst h
    obtain ⟨k, _, hfin⟩ := ofNat_exact (vsizeTx t) (vsizeTx_pos t) hv
    rw [hfin]
    exact nonNeg_div (Nat.mul_ne_zero (vsizeTx_pos t).ne' (Nat.two_pow_pos k).ne') _ (ofRat_false_nonneg fee 1)
  | err => simp [hf] at h
  | panic => simp [hf] at h

end BtcVerif.Proofs.FeeRange
