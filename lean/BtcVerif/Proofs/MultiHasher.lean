/-
  C20 — proofs: one step of the (repaired) MultiHasher refines one step of the streaming-hash specification,
  for every chain of lawful stages, under the invariant that stage 0 holds the stream; facts about histories
  of the specification; the helper functions; witnesses that the code before the D11 repair did not refine.
-/
import BtcVerif.Model.MultiHasher

namespace BtcVerif.Proofs.MultiHasher
open BtcVerif BtcVerif.Model.MultiHasher BtcVerif.Gen.Guards
open BtcVerif.Spec.MultiHasher (Op Out Algo chain chainDigest lastSize firstBlockSize streamAfter)

-- `S.step`, `S.runFrom`, `S.run` are the specification's functions; the unqualified ones are the model's
namespace S
export BtcVerif.Spec.MultiHasher (step runFrom run)
end S

theorem bufStage_lawful (H : Bytes → Bytes) (n b : Nat) : (bufStage H n b).Lawful := by
  intro chunks
  have h : ∀ (cs : List Bytes) (s : Bytes),
      cs.foldl (fun (s p : Bytes) => s ++ p) s = s ++ cs.flatten := by
    intro cs
    induction cs with
    | nil => intro s; simp
    | cons c cs ih => intro s; simp [List.foldl_cons, ih]
  simp only [bufStage]
  rw [h chunks []]; simp

theorem sha256Stage_lawful : sha256Stage.Lawful := bufStage_lawful _ _ _
theorem sha512Stage_lawful : sha512Stage.Lawful := bufStage_lawful _ _ _
theorem ripemd160Stage_lawful : ripemd160Stage.Lawful := bufStage_lawful _ _ _

theorem lawful_one {S : Stage} (h : S.Lawful) (d : Bytes) : S.sum (S.write S.init d) = S.H d := by
  have := h [d]; simpa using this

theorem pipe_spec (t : List Hasher) (hl : ∀ h ∈ t, h.stage.Lawful) (d : Bytes) :
    (pipe t d).2 = chain (t.map (·.stage.H)) d ∧ (pipe t d).1.map (·.stage) = t.map (·.stage) := by
  induction t generalizing d with
  | nil => simp [pipe, chain]
  | cons h t ih =>
    have hh : h.stage.Lawful := hl h (by simp)
    have ht : ∀ x ∈ t, x.stage.Lawful := fun x hx => hl x (by simp [hx])
    have hs : (h.reset.write d).sum = h.stage.H d := by
      simp [Hasher.sum, Hasher.write, Hasher.reset, lawful_one hh]
    obtain ⟨h1, h2⟩ := ih ht (h.stage.H d)
    simp only [pipe, hs, List.map_cons, chain]
    exact ⟨h1, by simp [h2, Hasher.write, Hasher.reset]⟩

theorem lastSize_eq_getLast : ∀ (as : List Algo) (h : as ≠ []), lastSize as = (as.getLast h).size
  | [_], _ => rfl
  | _ :: b :: t, _ => by
    rw [List.getLast_cons_cons]
    exact lastSize_eq_getLast (b :: t) _

theorem chain_append (a b : List (Bytes → Bytes)) (x : Bytes) : chain (a ++ b) x = chain b (chain a x) := by
  induction a generalizing x with
  | nil => rfl
  | cons H t ih => exact ih (H x)

/-! ### the invariant: stage 0 holds the stream, the other stages hold anything -/

def Inv (S0 : Stage) (Ss : List Stage) (stream : Bytes) (mh : MH) : Prop :=
  ∃ (chunks : List Bytes) (t : List Hasher), chunks.flatten = stream ∧
    mh.hashes = ⟨S0, chunks.foldl S0.write S0.init⟩ :: t ∧ t.map (·.stage) = Ss

theorem step_refines (S0 : Stage) (Ss : List Stage) (hl : ∀ S ∈ S0 :: Ss, S.Lawful)
    (stream : Bytes) (mh : MH) (hinv : Inv S0 Ss stream mh) (op : Op) :
    (step mh op).2 = .ok (S.step ((S0 :: Ss).map Stage.algo) stream op).2 ∧
    Inv S0 Ss (S.step ((S0 :: Ss).map Stage.algo) stream op).1 (step mh op).1 := by
  obtain ⟨hashes⟩ := mh
  obtain ⟨chunks, t, rfl, rfl, rfl⟩ := hinv
  have hl0 : S0.Lawful := hl S0 List.mem_cons_self
  have hlt : ∀ h ∈ t, h.stage.Lawful := fun h hm => hl _ (List.mem_cons_of_mem _ (List.mem_map_of_mem hm))
  cases op with
  | write p =>
    exact ⟨rfl, chunks ++ [p], t, by simp [S.step], by simp [step, write, Hasher.write, List.foldl_append], rfl⟩
  | sum b =>
    have h0 : (Hasher.sum ⟨S0, chunks.foldl S0.write S0.init⟩) = S0.H chunks.flatten := hl0 chunks
    obtain ⟨h1, h2⟩ := pipe_spec t hlt (S0.H chunks.flatten)
    constructor
    · simp [step, sum, h0, Outcome.map, S.step, chainDigest, chain, h1, Stage.algo, Function.comp_def]
    · exact ⟨chunks, (pipe t (S0.H chunks.flatten)).1, rfl, by simp [step, sum, h0], h2⟩
  | reset =>
    exact ⟨rfl, [], t.map Hasher.reset, rfl, rfl, by simp [Hasher.reset, Function.comp_def]⟩
  | size =>
    refine ⟨?_, chunks, t, rfl, rfl, rfl⟩
    have hne : (⟨S0, chunks.foldl S0.write S0.init⟩ :: t : List Hasher) ≠ [] := List.cons_ne_nil _ _
    have hs : (S0 :: t.map (·.stage)).map Stage.algo =
        (⟨S0, chunks.foldl S0.write S0.init⟩ :: t : List Hasher).map (·.stage.algo) := by
      simp [Function.comp_def]
    simp only [step, size, List.getLast?_eq_some_getLast hne, Outcome.map, S.step]
    rw [hs, lastSize_eq_getLast _ (mt List.map_eq_nil_iff.mp hne), List.getLast_map]
    rfl
  | blockSize => exact ⟨rfl, chunks, t, rfl, rfl, rfl⟩

theorem runFrom_refines (S0 : Stage) (Ss : List Stage) (hl : ∀ S ∈ S0 :: Ss, S.Lawful)
    (ops : List Op) : ∀ (stream : Bytes) (mh : MH), Inv S0 Ss stream mh →
    runFrom mh ops = .ok (S.runFrom ((S0 :: Ss).map Stage.algo) stream ops) := by
  induction ops with
  | nil => intro _ _ _; rfl
  | cons op ops ih =>
    intro stream mh hinv
    obtain ⟨h1, h2⟩ := step_refines S0 Ss hl stream mh hinv op
    simp only [runFrom, h1, S.runFrom, ih _ _ h2, Outcome.map]

theorem new_inv (S0 : Stage) (Ss : List Stage) :
    ∃ mh, new ((S0 :: Ss).map Hasher.new) = some mh ∧ Inv S0 Ss [] mh := by
  refine ⟨⟨(S0 :: Ss).map Hasher.new⟩, ?_, [], Ss.map Hasher.new, rfl, by simp [Hasher.new], ?_⟩
  · simp [new, bhash_NewMultiHasher_0]; omega
  · simp [Hasher.new, Function.comp_def]

/-- the nil pointer returned for an empty chain: any call panics -/
theorem run_nil (ops : List Op) : run [] ops = if ops.isEmpty then .ok [] else .panic := by
  simp [run, new, bhash_NewMultiHasher_0]

theorem step_fst (algos : List Algo) (s : Bytes) (op : Op) :
    (S.step algos s op).1 = streamAfter s [op] := by
  cases op <;> simp [S.step, streamAfter]

theorem streamAfter_cons (s : Bytes) (op : Op) (ops : List Op) :
    streamAfter s (op :: ops) = streamAfter (streamAfter s [op]) ops := by
  cases op <;> simp [streamAfter]

theorem streamAfter_append (s : Bytes) (a b : List Op) :
    streamAfter s (a ++ b) = streamAfter (streamAfter s a) b := by
  induction a generalizing s with
  | nil => rfl
  | cons op a ih =>
    rw [List.cons_append, streamAfter_cons, ih, ← streamAfter_cons]

theorem streamAfter_writes (s : Bytes) (chunks : List Bytes) :
    streamAfter s (chunks.map .write) = s ++ chunks.flatten := by
  induction chunks generalizing s with
  | nil => simp [streamAfter]
  | cons c cs ih => simp [streamAfter, ih]

theorem runFrom_append (algos : List Algo) (s : Bytes) (a b : List Op) :
    S.runFrom algos s (a ++ b) = S.runFrom algos s a ++ S.runFrom algos (streamAfter s a) b := by
  induction a generalizing s with
  | nil => rfl
  | cons op a ih =>
    simp only [List.cons_append, S.runFrom, ih, step_fst]
    rw [← streamAfter_cons]

theorem runFrom_length (algos : List Algo) (s : Bytes) (a : List Op) :
    (S.runFrom algos s a).length = a.length := by
  induction a generalizing s with
  | nil => rfl
  | cons op a ih => simp [S.runFrom, ih]

theorem runFrom_writes (algos : List Algo) (s : Bytes) (chunks : List Bytes) :
    S.runFrom algos s (chunks.map .write) = chunks.map (fun c => Out.wrote c.length) := by
  induction chunks generalizing s with
  | nil => rfl
  | cons c cs ih => simp [S.runFrom, S.step, ih]

theorem copyArr_of_length (n : Nat) (src : Bytes) (h : src.length = n) : copyArr n src = src := by
  simp [copyArr, ← h]

theorem ripemd160_eq (R : Stage) (hR : R.Lawful) (data : Bytes) :
    ripemd160 R data = copyArr 20 (R.H data) := by
  simp [ripemd160, Hasher.new, Hasher.write, Hasher.sum, lawful_one hR]

theorem foldl_write (S : Stage) (st : S.σ) (chunks : List Bytes) :
    chunks.foldl Hasher.write ⟨S, st⟩ = ⟨S, chunks.foldl S.write st⟩ := by
  induction chunks generalizing st with
  | nil => rfl
  | cons c cs ih => simp [List.foldl_cons, Hasher.write, ih]

theorem taggedHash_eq (sum256 : Bytes → Bytes) (S : Stage) (hS : S.Lawful) (tag : Bytes)
    (chunks : List Bytes) :
    taggedHash sum256 S tag chunks = S.H (sum256 tag ++ sum256 tag ++ chunks.flatten) := by
  have := hS (sum256 tag :: sum256 tag :: chunks)
  simp only [List.foldl_cons, List.flatten_cons] at this
  unfold taggedHash
  simp only [Hasher.new, Hasher.write]
  rw [foldl_write]
  simp only [Hasher.sum, this, List.append_assoc]

/-! ### the code before the repair violated the contract (D11) — witnesses on a toy lawful stage
    whose "hash" is the identity -/

def toy : Stage := bufStage id 1 1

theorem toy_lawful : toy.Lawful := bufStage_lawful _ _ _

/-- a second `Sum(nil)` gave a different digest (later stages kept the first one) -/
theorem old_sum_not_idempotent :
    Old.run [toy, toy] [.write [1], .sum [], .sum []]
      = .ok [.wrote 1, .digest [1], .digest [1, 1]] := by decide

/-- `Sum(b)` dropped `b` -/
theorem old_sum_drops_prefix :
    Old.run [toy] [.write [1], .sum [9]] = .ok [.wrote 1, .digest [1]] := by decide

/-- `Reset` left the later stages dirty -/
theorem old_reset_incomplete :
    Old.run [toy, toy] [.write [1], .sum [], .reset, .write [1], .sum []]
      = .ok [.wrote 1, .digest [1], .unit, .wrote 1, .digest [1, 1]] := by decide

end BtcVerif.Proofs.MultiHasher
