/-
  C04, transaction-signing helpers: model of /repo/signer, what a successful call of each helper
  computed (`signInput*_inv`), the size bounds that keep a signed transaction in C01's domain
  (`signed_reparses`), and `SignSigHash` as `SignECDSA` followed by the C11 encoder
  (Proofs/DEREnc.lean), which is where its 73-byte bound comes from.

  Mirrors
    signer/sign_p2pkh.go:9-40              signInputP2PKH (compressed / uncompressed)
    signer/sign_p2wpkh.go:9-50             SignInputP2WPKH
    signer/sign_p2sh_nested_p2wpkh.go:10-47 SignInputP2SHNestedP2WPKH
  on top of `Model.ECC` (keys, `signSigHash`), `Model.Script` (`pushData`, `makeP2PKH…`) and the C01
  transaction type `Model.Tx`. The two signature-hash functions and HASH160 are the record `HashOps`
  (the sighash model of C03 is `Model/SigHash.lean`; every theorem here holds for ANY sighash
  function, which is all the frame and form claims need — the digest that is signed is named
  explicitly and is computed on the PRE-state `tx`).
  This model is not linked into the oracle executable (hence not under `Model/`): the Go helpers
  are checked on the Go side by direct oracles and byte-for-byte against an assembly from the
  model's signature (harness/signer.go).

  Go's nil and empty witness are the same value `[]` here ("identified, as serialisation does").
-/
import BtcVerif.Model.ECC
import BtcVerif.Model.Tx
import BtcVerif.Model.Script
import BtcVerif.Proofs.ECCGroup
import BtcVerif.Proofs.DEREnc
import BtcVerif.Proofs.Tx
import BtcVerif.Proofs.Script

namespace BtcVerif.Model.Signer
open BtcVerif BtcVerif.Model BtcVerif.Model.ECC BtcVerif.Gen.Guards

/-- `(*tx.Tx).SignatureHashForInput`, `SignatureHashForWitnessInput`, `bhash.Hash160` -/
structure HashOps where
  legacy : Tx → Nat → Bytes → Nat → Outcome Bytes
  bip143 : Tx → Nat → Bytes → Nat → Nat → Outcome Bytes
  hash160 : Bytes → Bytes

/-- `txn.Inputs[n].Script = sc` -/
def setScript : List TxIn → Nat → Bytes → List TxIn
  | [], _, _ => []
  | i :: is, 0, sc => { i with script := sc } :: is
  | i :: is, n + 1, sc => i :: setScript is n sc

variable (C : CurveOps) (S : SigOps) (Hh : HashOps)

/-- sign_p2pkh.go:9-32 -/
def signInputP2PKH (tx : Tx) (nInput : Int) (priv : Bytes) (ht : Nat) (compressed : Bool) : Outcome Tx :=
  if signer_signInputP2PKH_0 (nInput := nInput) (len_txn_Inputs := tx.inputs.length) then .err
  else do
    let n := nInput.toNat
    let pub ← getPublicKey C priv compressed
    let sc ← makeP2PKHFromPublicKey Hh.hash160 pub
    let h ← Hh.legacy tx n sc ht
    let sig ← signSigHash C S h priv ht
    let ps ← pushData sig
    let pp ← pushData pub
    pure { tx with inputs := setScript tx.inputs n (ps ++ pp) }

/-- the witness bookkeeping shared by both segwit helpers (sign_p2wpkh.go:34-44): allocate when nil,
    put `w` at `n`, turn nil entries into empty ones (no-op here); `txn.Witnesses[i]` panics when a
    caller-built witness list is shorter than the input list. The loop over the inputs (guards
    `signer_SignInputP2WPKH_2..4`, `…Nested_2..4`: loop head, `i == nInput`, nil entry) is written by
    hand as `List.set` plus the length test, since nil and empty witnesses are one value here -/
def installWitness (tx : Tx) (n : Nat) (w : Witness) : Outcome (List Witness) :=
  let ws : List Witness :=
    match tx.witnesses with
    | none => List.replicate tx.inputs.length []     -- guard `txn.Witnesses == nil`
    | some ws => ws
  if ws.length < tx.inputs.length then .panic else .ok (ws.set n w)

/-- sign_p2wpkh.go:9-50 -/
def signInputP2WPKH (tx : Tx) (nInput : Int) (priv : Bytes) (ht : Nat) (value : Nat) : Outcome Tx :=
  if signer_SignInputP2WPKH_0 (nInput := nInput) (len_txn_Inputs := tx.inputs.length) then .err
  else do
    let n := nInput.toNat
    let pub ← getPublicKeyCompressed C priv
    let sc ← makeP2PKHFromPublicKey Hh.hash160 pub
    let h ← Hh.bip143 tx n sc ht value
    let sig ← signSigHash C S h priv ht
    let ws ← installWitness tx n [sig, pub]
    pure { tx with inputs := setScript tx.inputs n [], witnesses := some ws }

/-- sign_p2sh_nested_p2wpkh.go:10-47 -/
def signInputNested (tx : Tx) (nInput : Int) (priv : Bytes) (ht : Nat) (value : Nat) : Outcome Tx :=
  if signer_SignInputP2SHNestedP2WPKH_0 (nInput := nInput) (len_txn_Inputs := tx.inputs.length) then .err
  else do
    let n := nInput.toNat
    let pub ← getPublicKeyCompressed C priv
    let pkh := Hh.hash160 pub
    let sc ← makeP2PKH pkh
    let h ← Hh.bip143 tx n sc ht value
    let sig ← signSigHash C S h priv ht
    let ws ← installWitness tx n [sig, pub]
    let prog ← makeP2WPKH pkh
    let redeem ← pushData prog                        -- RedeemP2SH(program, nil)
    pure { tx with inputs := setScript tx.inputs n redeem, witnesses := some ws }

/-- what "every other field is unchanged" means for the input list -/
def InputsFrame (old new : List TxIn) (n : Nat) : Prop :=
  new.length = old.length ∧ (∀ i, i ≠ n → new[i]? = old[i]?) ∧
    ∀ a, old[n]? = some a → ∃ sc, new[n]? = some { a with script := sc }

theorem setScript_eq_modify (ins : List TxIn) (n : Nat) (sc : Bytes) :
    setScript ins n sc = ins.modify n fun a => { a with script := sc } := by
  induction ins generalizing n with
  | nil => rw [List.modify_nil]; rfl
  | cons i is ih => cases n with
    | zero => rfl
    | succ n => rw [setScript, ih, List.modify_succ_cons]

theorem setScript_at (ins : List TxIn) (n : Nat) (sc : Bytes) (a : TxIn) (h : ins[n]? = some a) :
    (setScript ins n sc)[n]? = some { a with script := sc } := by
  rw [setScript_eq_modify, List.getElem?_modify_eq, h]; rfl

theorem setScript_frame (ins : List TxIn) (n : Nat) (sc : Bytes) : InputsFrame ins (setScript ins n sc) n := by
  refine ⟨?_, fun i hi => ?_, fun a ha => ⟨sc, setScript_at ins n sc a ha⟩⟩
  · rw [setScript_eq_modify, List.length_modify]
  · rw [setScript_eq_modify, List.getElem?_modify_ne _ _ (Ne.symm hi)]

theorem WFTxIn_setScript {ins : List TxIn} (h : ∀ i ∈ ins, WFTxIn i) (n : Nat) {sc : Bytes}
    (hsc : sc.length ≤ 1000000) : ∀ i ∈ setScript ins n sc, WFTxIn i := by
  induction ins generalizing n with
  | nil => exact h
  | cons a as ih =>
    rw [List.forall_mem_cons] at h
    cases n with
    | zero => exact List.forall_mem_cons.mpr ⟨⟨h.1.1, hsc, h.1.2.2⟩, h.2⟩
    | succ n => exact List.forall_mem_cons.mpr ⟨h.1, ih h.2 n⟩

theorem installWitness_eq_ok {tx : Tx} {n : Nat} {w : Witness} {ws : List Witness} :
    installWitness tx n w = .ok ws ↔
      tx.inputs.length ≤ (tx.witnesses.getD (List.replicate tx.inputs.length [])).length ∧
        ws = (tx.witnesses.getD (List.replicate tx.inputs.length [])).set n w := by
  have e : (match tx.witnesses with
      | none => List.replicate tx.inputs.length []
      | some ws => ws) = tx.witnesses.getD (List.replicate tx.inputs.length []) := by
    cases tx.witnesses <;> rfl
  unfold installWitness
  rw [e]
  dsimp only
  split
  · exact ⟨nofun, fun h => by omega⟩
  · rw [Outcome.ok.injEq, eq_comm]
    exact ⟨fun h => ⟨by omega, h⟩, fun h => h.2⟩

theorem WF_installWitness {tx : Tx} (hwf : WFTx tx) {n : Nat} {w : Witness} {ws : List Witness}
    (h : installWitness tx n w = .ok ws) (hw : WFWitness w) :
    ws.length = tx.inputs.length ∧ ∀ x ∈ ws, WFWitness x := by
  obtain ⟨_, rfl⟩ := installWitness_eq_ok.mp h
  have hb : (tx.witnesses.getD (List.replicate tx.inputs.length [])).length = tx.inputs.length ∧
      ∀ x ∈ tx.witnesses.getD (List.replicate tx.inputs.length []), WFWitness x := by
    cases hwit : tx.witnesses with
    | none =>
      refine ⟨List.length_replicate, fun x hx => ?_⟩
      rw [(List.mem_replicate.mp hx).2]
      exact ⟨Nat.zero_le _, Nat.zero_le _⟩
    | some old => exact hwf.witnesses_wf old hwit
  refine ⟨by rw [List.length_set]; exact hb.1, fun x hx => ?_⟩
  rcases List.mem_or_eq_of_mem_set hx with hx | rfl
  · exact hb.2 x hx
  · exact hw

/-- the shape of every helper's result stays in C01's domain — a new scriptSig within `WFTxIn`'s
    1 000 000-byte bound at one input, and a witness list that is well-formed for the (unchanged)
    number of inputs — so it serialises and parses back to itself, leaving following bytes unread -/
theorem signed_reparses {tx : Tx} (hwf : WFTx tx) (n : Nat) {sc : Bytes} (hsc : sc.length ≤ 1000000)
    (wit : Option (List Witness))
    (hwit : ∀ ws, wit = some ws → ws.length = tx.inputs.length ∧ ∀ w ∈ ws, WFWitness w) (rest : Bytes) :
    WFTx { tx with inputs := setScript tx.inputs n sc, witnesses := wit } ∧
      ∃ bs, encTx { tx with inputs := setScript tx.inputs n sc, witnesses := wit } true = .ok bs ∧
        decTx (bs ++ rest) = .ok ({ tx with inputs := setScript tx.inputs n sc, witnesses := wit }, rest) := by
  obtain ⟨h1, h2, h3, h4, h5, h6, h7, _⟩ := hwf
  have hl : (setScript tx.inputs n sc).length = tx.inputs.length := (setScript_frame _ n sc).1
  have hwf' : WFTx { tx with inputs := setScript tx.inputs n sc, witnesses := wit } :=
    ⟨h1, h2, hl ▸ h3, hl ▸ h4, h5, WFTxIn_setScript h6 n hsc, h7, fun ws hws => hl ▸ hwit ws hws⟩
  exact ⟨hwf', decTx_encTx _ rest hwf'⟩

/-- … with the witness `[sig, pub]` of the segwit helpers installed: a DER signature (≤ 73 bytes) and a
    compressed key -/
theorem signed_reparses_segwit {tx : Tx} (hwf : WFTx tx) {n : Nat} {sig pub sc : Bytes} {ws : List Witness}
    (hw : installWitness tx n [sig, pub] = .ok ws) (hs : sig.length ≤ 73) (hp : pub.length = 33)
    (hsc : sc.length ≤ 1000000) (rest : Bytes) :
    WFTx { tx with inputs := setScript tx.inputs n sc, witnesses := some ws } ∧
      ∃ bs, encTx { tx with inputs := setScript tx.inputs n sc, witnesses := some ws } true = .ok bs ∧
        decTx (bs ++ rest) = .ok ({ tx with inputs := setScript tx.inputs n sc, witnesses := some ws }, rest) := by
  have hww : WFWitness [sig, pub] := by
    refine ⟨Nat.le_of_ble_eq_true rfl, ?_⟩
    show sig.length + (pub.length + 0) ≤ 0x20000000
    omega
  exact signed_reparses hwf n hsc (some ws) (fun _ e => Option.some.inj e ▸ WF_installWitness hwf hw hww) rest

theorem nInput_range {nInput : Int} {len : Nat}
    (h : ¬ (decide (nInput < (0 : Int)) || decide (nInput ≥ (len : Int))) = true) :
    0 ≤ nInput ∧ nInput.toNat < len := by
  rw [Bool.or_eq_true, decide_eq_true_eq, decide_eq_true_eq] at h
  omega

variable {C S Hh}

theorem signInputP2PKH_inv {tx tx' : Tx} {nInput : Int} {priv : Bytes} {ht : Nat} {compressed : Bool}
    (h : signInputP2PKH C S Hh tx nInput priv ht compressed = .ok tx') :
    (0 ≤ nInput ∧ nInput.toNat < tx.inputs.length) ∧
    ∃ pub sc dig sig ps pp,
      getPublicKey C priv compressed = .ok pub ∧ makeP2PKHFromPublicKey Hh.hash160 pub = .ok sc ∧
      Hh.legacy tx nInput.toNat sc ht = .ok dig ∧ signSigHash C S dig priv ht = .ok sig ∧
      pushData sig = .ok ps ∧ pushData pub = .ok pp ∧
      tx' = { tx with inputs := setScript tx.inputs nInput.toNat (ps ++ pp) } := by
  unfold signInputP2PKH at h
  by_cases hg : signer_signInputP2PKH_0 nInput tx.inputs.length = true
  · rw [if_pos hg] at h; cases h
  · rw [if_neg hg] at h
    simp only [Outcome.bind_eq_ok, Outcome.pure_eq, Outcome.ok.injEq] at h
    obtain ⟨pub, h1, sc, h2, dig, h3, sig, h4, ps, h5, pp, h6, rfl⟩ := h
    exact ⟨nInput_range hg, pub, sc, dig, sig, ps, pp, h1, h2, h3, h4, h5, h6, rfl⟩

theorem signInputP2WPKH_inv {tx tx' : Tx} {nInput : Int} {priv : Bytes} {ht value : Nat}
    (h : signInputP2WPKH C S Hh tx nInput priv ht value = .ok tx') :
    (0 ≤ nInput ∧ nInput.toNat < tx.inputs.length) ∧
    ∃ pub sc dig sig ws,
      getPublicKeyCompressed C priv = .ok pub ∧ makeP2PKHFromPublicKey Hh.hash160 pub = .ok sc ∧
      Hh.bip143 tx nInput.toNat sc ht value = .ok dig ∧ signSigHash C S dig priv ht = .ok sig ∧
      installWitness tx nInput.toNat [sig, pub] = .ok ws ∧
      tx' = { tx with inputs := setScript tx.inputs nInput.toNat [], witnesses := some ws } := by
  unfold signInputP2WPKH at h
  by_cases hg : signer_SignInputP2WPKH_0 nInput tx.inputs.length = true
  · rw [if_pos hg] at h; cases h
  · rw [if_neg hg] at h
    simp only [Outcome.bind_eq_ok, Outcome.pure_eq, Outcome.ok.injEq] at h
    obtain ⟨pub, h1, sc, h2, dig, h3, sig, h4, ws, h5, rfl⟩ := h
    exact ⟨nInput_range hg, pub, sc, dig, sig, ws, h1, h2, h3, h4, h5, rfl⟩

theorem signInputNested_inv {tx tx' : Tx} {nInput : Int} {priv : Bytes} {ht value : Nat}
    (h : signInputNested C S Hh tx nInput priv ht value = .ok tx') :
    (0 ≤ nInput ∧ nInput.toNat < tx.inputs.length) ∧
    ∃ pub sc dig sig ws prog redeem,
      getPublicKeyCompressed C priv = .ok pub ∧ makeP2PKH (Hh.hash160 pub) = .ok sc ∧
      Hh.bip143 tx nInput.toNat sc ht value = .ok dig ∧ signSigHash C S dig priv ht = .ok sig ∧
      installWitness tx nInput.toNat [sig, pub] = .ok ws ∧
      makeP2WPKH (Hh.hash160 pub) = .ok prog ∧ pushData prog = .ok redeem ∧
      tx' = { tx with inputs := setScript tx.inputs nInput.toNat redeem, witnesses := some ws } := by
  unfold signInputNested at h
  by_cases hg : signer_SignInputP2SHNestedP2WPKH_0 nInput tx.inputs.length = true
  · rw [if_pos hg] at h; cases h
  · rw [if_neg hg] at h
    simp only [Outcome.bind_eq_ok, Outcome.pure_eq, Outcome.ok.injEq] at h
    obtain ⟨pub, h1, sc, h2, dig, h3, sig, h4, ws, h5, prog, h6, redeem, h7, rfl⟩ := h
    exact ⟨nInput_range hg, pub, sc, dig, sig, ws, prog, redeem, h1, h2, h3, h4, h5, h6, h7, rfl⟩

theorem pushData_length {d out : Bytes} (h : pushData d = .ok out) : out.length ≤ d.length + 5 := by
  by_cases hd : d.length < 2 ^ 32
  · rw [Proofs.Script.pushData_eq_spec d hd] at h
    cases h
    rw [Proofs.Script.push_eq_minOp, List.length_cons, List.length_append, Proofs.Script.lenField_length]
    have := Proofs.Script.minOp_cases d.length
    omega
  · obtain ⟨g0, g1, g2, g3⟩ := Proofs.Script.pushData_guards d.length
    simp only [pushData, g0, g1, g2, g3, decide_eq_true_eq] at h
    rw [if_neg (by omega), if_neg (by omega), if_neg (by omega), if_neg hd] at h
    cases h

theorem makeP2WPKH_length {hsh prog : Bytes} (h : makeP2WPKH hsh = .ok prog) : prog.length ≤ hsh.length + 6 := by
  obtain ⟨p, hp, h⟩ := Outcome.bind_eq_ok.mp (show (pushData hsh >>= _) = _ from h)
  cases h
  exact Nat.succ_le_succ (pushData_length hp)

end BtcVerif.Model.Signer

namespace BtcVerif.Proofs.ECC
open BtcVerif BtcVerif.Model.ECC BtcVerif.Proofs

variable {C : CurveOps}

theorem signSigHash_eq_ok {S : SigOps} {hash priv sig : Bytes} {ht : Nat} :
    signSigHash C S hash priv ht = .ok sig ↔
      ∃ r s, signECDSA C S priv hash = .ok (r, s) ∧
        Model.DER.encode (some (r : Int)) (some (s : Int)) ht = .ok sig := by
  unfold signSigHash
  cases signECDSA C S priv hash with
  | ok rs => exact ⟨fun h => ⟨rs.1, rs.2, rfl, h⟩, fun ⟨r, s, e, h⟩ => by cases e; exact h⟩
  | err => exact ⟨nofun, fun ⟨_, _, e, _⟩ => nomatch e⟩
  | panic => exact ⟨nofun, fun ⟨_, _, e, _⟩ => nomatch e⟩

theorem frame_getLast (rb sb : Bytes) (ht : UInt8) : (Model.DER.frame rb sb ht).getLast? = some ht := by
  have : Model.DER.frame rb sb ht =
      (0x30 :: Model.DER.byteOf (rb.length + sb.length + 4) :: 0x02 :: Model.DER.byteOf rb.length ::
        (rb ++ 0x02 :: Model.DER.byteOf sb.length :: sb)) ++ [ht] := by
    simp [Model.DER.frame]
  rw [this, List.getLast?_concat]

theorem signSigHash_length (hn2 : C.n ≤ 2 ^ 256) {S : SigOps} {dig priv sig : Bytes} {ht : Nat}
    (h : signSigHash C S dig priv ht = .ok sig) : sig.length ≤ 73 := by
  obtain ⟨r, s, hs, he⟩ := signSigHash_eq_ok.mp h
  obtain ⟨_, hrn, hsn⟩ := signECDSA_lowS hs
  by_cases hht : ht < 256
  · rw [Model.DER.encode_nat_ok (by omega) (by omega) (by omega)] at he
    cases he
    exact (Model.DER.decode_frame_content (by omega) (by omega) (by omega)).2.2.2
  · rw [Model.DER.encode_err_ht _ _ (by omega)] at he
    cases he

end BtcVerif.Proofs.ECC
