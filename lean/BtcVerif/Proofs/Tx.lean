/-
  The wire codec of transactions: each decoder inverts its encoder on the well-formed values and leaves
  the following bytes unread; `txBytes` is what `encTx` emits, and `decTx` reads it back.
-/
import BtcVerif.Model.Tx
import BtcVerif.Proofs.Varint

namespace BtcVerif.Model
open BtcVerif BtcVerif.Parser
open BtcVerif.Gen.Guards

theorem encMany_nil {α} (enc : α → Bytes) : encMany enc [] = [] := rfl

theorem encMany_cons {α} (enc : α → Bytes) (x : α) (xs : List α) :
    encMany enc (x :: xs) = enc x ++ encMany enc xs := rfl

theorem readMany_enc {α} {p : Parser α} {enc : α → Bytes} {P : α → Prop}
    (hp : ∀ x rest, P x → p (enc x ++ rest) = .ok (x, rest)) (xs : List α) (h : ∀ x ∈ xs, P x) (rest : Bytes) :
    readMany p xs.length (encMany enc xs ++ rest) = .ok (xs, rest) := by
  induction xs with
  | nil => rfl
  | cons x xs ih =>
    rw [List.length_cons, readMany, encMany_cons, List.append_assoc,
      bind_of_ok (hp x _ (h x List.mem_cons_self)),
      bind_of_ok (ih fun y hy => h y (List.mem_cons_of_mem _ hy))]
    rfl

theorem decPrevOut_enc (p : PrevOut) (rest : Bytes) (h : WFPrevOut p) :
    decPrevOut (encPrevOut p ++ rest) = .ok (p, rest) := by
  unfold decPrevOut encPrevOut
  rw [List.append_assoc, bind_of_ok (readN_append' 32 _ _ h.1), bind_of_ok (readLE_append 4 _ _ h.2)]
  rfl

theorem decTxIn_enc (i : TxIn) (rest : Bytes) (h : WFTxIn i) :
    decTxIn (encTxIn i ++ rest) = .ok (i, rest) := by
  obtain ⟨h1, h2, h3⟩ := h
  unfold decTxIn encTxIn
  simp only [List.append_assoc]
  rw [bind_of_ok (decPrevOut_enc _ _ h1), bind_of_ok (decVarint_encVarint _ _ (by omega)),
    if_neg (by simp [tx_inputFromReader_0]; omega),
    bind_of_ok (readN_append _ _), bind_of_ok (readLE_append 4 _ _ h3)]
  rfl

theorem decTxOut_enc (o : TxOut) (rest : Bytes) (h : WFTxOut o) :
    decTxOut (encTxOut o ++ rest) = .ok (o, rest) := by
  obtain ⟨h1, h2⟩ := h
  unfold decTxOut encTxOut
  simp only [List.append_assoc]
  rw [bind_of_ok (readLE_append 8 _ _ h1), bind_of_ok (decVarint_encVarint _ _ (by omega)),
    if_neg (by simp [tx_outputFromReader_0]; omega), bind_of_ok (readN_append _ _)]
  rfl

/-- inside the limits the wrap-around comparison `uint64(chunkLength) > WitnessMaximumSize - witnessSize`
    is the plain one -/
theorem witnessFromReader_2_iff {n size : Nat} (hn : n < 2 ^ 64) (hs : size ≤ 0x20000000) :
    tx_witnessFromReader_2 n size = true ↔ 0x20000000 < size + n := by
  rw [tx_witnessFromReader_2, decide_eq_true_eq, Nat.mod_eq_of_lt hn, Nat.mod_eq_of_lt (by omega : size < _)]
  omega

theorem decChunks_enc (w : Witness) (size : Nat) (rest : Bytes)
    (h : size + witBytes w ≤ 0x20000000) :
    decChunks w.length size ((w.map encChunk).flatten ++ rest) = .ok (w, rest) := by
  induction w generalizing size with
  | nil => rfl
  | cons c cs ih =>
    simp only [witBytes, List.map_cons, List.sum_cons] at h
    simp only [List.length_cons, decChunks, List.map_cons, List.flatten_cons, encChunk, List.append_assoc]
    rw [bind_of_ok (decVarint_encVarint _ _ (by omega)),
      if_neg (by rw [witnessFromReader_2_iff (by omega) (by omega)]; omega), bind_of_ok (readN_append _ _),
      Nat.mod_eq_of_lt (by omega), bind_of_ok (ih (size + c.length) (by simp only [witBytes]; omega))]
    rfl

theorem decWitness_enc (w : Witness) (rest : Bytes) (h : WFWitness w) :
    decWitness (encWitness w ++ rest) = .ok (w, rest) := by
  obtain ⟨h1, h2⟩ := h
  unfold decWitness encWitness
  rw [List.append_assoc, bind_of_ok (decVarint_encVarint _ _ (by omega)),
    if_neg (by simp [tx_witnessFromReader_0]; omega)]
  exact decChunks_enc w 0 rest (by omega)

/-- The wire form of a transaction: the BIP144 layout (marker, flag, one witness stack per input before
    the lock time) when a witness list is present, the legacy layout otherwise. -/
def txBytes (tx : Tx) : Bytes :=
  leBytes 4 tx.version ++ (match tx.witnesses with | none => [] | some _ => segwitFlag)
    ++ encVarint tx.inputs.length ++ encMany encTxIn tx.inputs
    ++ encVarint tx.outputs.length ++ encMany encTxOut tx.outputs
    ++ encMany encWitness (witList tx) ++ leBytes 4 tx.locktime

theorem canSerialize_iff (tx : Tx) :
    canSerialize tx = true ↔ ∀ ws, tx.witnesses = some ws → ws.length = tx.inputs.length := by
  unfold canSerialize
  cases tx.witnesses <;> simp [tx_Tx_canSerialize_4, Int.natCast_inj]

theorem WFTx.witnesses_wf {tx : Tx} (hwf : WFTx tx) :
    ∀ ws, tx.witnesses = some ws → ws.length = tx.inputs.length ∧ ∀ w ∈ ws, WFWitness w :=
  hwf.2.2.2.2.2.2.2

theorem canSerialize_of_WF (tx : Tx) (h : WFTx tx) : canSerialize tx = true :=
  (canSerialize_iff tx).mpr fun ws hws => (h.witnesses_wf ws hws).1

theorem WF_strip {tx : Tx} (h : WFTx tx) : WFTx { tx with witnesses := none } := by
  obtain ⟨h1, h2, h3, h4, h5, h6, h7, _⟩ := h
  exact ⟨h1, h2, h3, h4, h5, h6, h7, nofun⟩

/-- What `serialize` emits: the full form when witnesses are asked for and there is an input, the
    stripped form otherwise. (Without inputs a serialisable transaction has no witness stack either.) -/
theorem encTx_of_canSerialize {tx : Tx} (h : canSerialize tx = true) (w : Bool) :
    encTx tx w =
      .ok (txBytes (if w = true ∧ 0 < tx.inputs.length then tx else { tx with witnesses := none })) := by
  obtain ⟨v, ins, outs, wits, lock⟩ := tx
  have hl := (canSerialize_iff _).mp h
  simp only [encTx, h, Bool.not_true, Bool.false_eq_true, ite_false, tx_Tx_serialize_1, tx_Tx_serialize_2,
    witLen, witList] at hl ⊢
  cases wits with
  | none => simp [txBytes, witList, encMany]
  | some ws =>
    have := hl ws rfl
    cases w
    · simp [txBytes, witList, encMany]
    · by_cases hpos : 0 < ins.length
      · -- one stack per input, so the witness list is not empty and the flag is written
        simp [txBytes, witList, hpos, this]
      · -- no input, hence no stack: neither flag nor witnesses are written
        simp [txBytes, witList, hpos, this, encMany]

theorem encTx_false {tx : Tx} (h : canSerialize tx = true) :
    encTx tx false = .ok (txBytes { tx with witnesses := none }) := by
  simpa using encTx_of_canSerialize h false

theorem encTx_of_WF {tx : Tx} (h : WFTx tx) : encTx tx true = .ok (txBytes tx) := by
  simpa [show 0 < tx.inputs.length from h.2.2.1] using encTx_of_canSerialize (canSerialize_of_WF tx h) true

theorem sniff_flag (rest : Bytes) : sniffSegwit (segwitFlag ++ rest) = .ok (true, rest) := by
  unfold sniffSegwit
  rw [readN_append' 2 segwitFlag rest rfl]
  simp [tx_FromReader_0]

theorem sniff_other {s : Bytes} (h2 : 2 ≤ s.length) (h0 : s.head? ≠ some 0) :
    sniffSegwit s = .ok (false, s) := by
  match s, h2, h0 with
  | b :: c :: tl, _, h0 =>
    have hb : b ≠ 0 := fun h => h0 (h ▸ rfl)
    unfold sniffSegwit
    rw [show readN 2 (b :: c :: tl) = .ok ([b, c], tl) from readN_append' 2 [b, c] tl rfl]
    simp [tx_FromReader_0, segwitFlag, hb]

theorem sniff_marker (wits : Option (List Witness)) {body : Bytes} (h2 : 2 ≤ body.length)
    (h0 : body.head? ≠ some 0) :
    sniffSegwit ((match wits with | none => [] | some _ => segwitFlag) ++ body) = .ok (wits.isSome, body) := by
  cases wits with
  | none => exact sniff_other h2 h0
  | some _ => exact sniff_flag body

theorem decTx_txBytes (tx : Tx) (rest : Bytes) (h : WFTx tx) : decTx (txBytes tx ++ rest) = .ok (tx, rest) := by
  obtain ⟨v, ins, outs, wits, lock⟩ := tx
  obtain ⟨hv, hlock, h1, h2, h3, hin, hout, hwit⟩ := h
  simp only at hv hlock h1 h2 h3 hin hout hwit
  simp only [decTx, txBytes, List.append_assoc]
  -- what follows the marker has at least the four bytes of the lock time and starts with the input count
  rw [bind_of_ok (readLE_append 4 _ _ hv),
    bind_of_ok (sniff_marker wits (by simp only [List.length_append, leBytes_length]; omega)
      (encVarint_head_ne_zero h1 _)),
    bind_of_ok (decVarint_encVarint _ _ (by omega)), if_neg (by simp [tx_FromReader_1]; omega),
    bind_of_ok (readMany_enc decTxIn_enc ins hin _),
    bind_of_ok (decVarint_encVarint _ _ (by omega)), if_neg (by simp [tx_FromReader_3]; omega),
    bind_of_ok (readMany_enc decTxOut_enc outs hout _)]
  cases wits with
  | none =>
    rw [tx_FromReader_5, if_neg nofun, bind_of_ok (pure_apply _ _)]
    exact bind_of_ok (readLE_append 4 _ _ hlock)
  | some ws =>
    obtain ⟨hlen, hall⟩ := hwit ws rfl
    -- inner step: `do let ws ← readMany …; return some ws`; outer step: the bind of `decTx` on that block
    rw [tx_FromReader_5, Option.isSome_some, if_pos rfl, ← hlen, bind_of_ok (bind_of_ok
      (readMany_enc decWitness_enc ws hall _))]
    exact bind_of_ok (readLE_append 4 _ _ hlock)

theorem decTx_of_encTx (tx : Tx) (rest : Bytes) (h : WFTx tx) {bs : Bytes} (he : encTx tx true = .ok bs) :
    decTx (bs ++ rest) = .ok (tx, rest) := by
  cases (encTx_of_WF h).symm.trans he
  exact decTx_txBytes tx rest h

theorem decTx_encTx (tx : Tx) (rest : Bytes) (h : WFTx tx) :
    ∃ bs, encTx tx true = .ok bs ∧ decTx (bs ++ rest) = .ok (tx, rest) :=
  ⟨_, encTx_of_WF h, decTx_txBytes tx rest h⟩

end BtcVerif.Model
