/-
  The model's Bech32 `Encode` equals the BIP173 reference encoder
  (`bech32_encode(hrp, [version] + convertbits(payload, 8, 5))`) on its domain.
-/
import BtcVerif.Proofs.Bech32Ref

namespace BtcVerif.Proofs.Bech32
open BtcVerif BtcVerif.Model BtcVerif.Model.Bech32 BtcVerif.Gen BtcVerif.Gen.Guards

def groupsNat (bs : Bits) : List Nat := (split bs 5).map bitsToNat

theorem groupsNat_nil : groupsNat [] = [] := rfl

theorem convertbits8_eq (data : Bytes) (hne : data ≠ []) :
    Spec.Bech32.convertbits (data.map UInt8.toNat) 8 5 true = some (bytesToIndices data) := by
  obtain ⟨acc', gs, R, hc, hR, hloop⟩ :=
    convertLoop_bits 8 5 (by decide) byteToBits byteToBits_length bitsToNat_byteToBits (data.map UInt8.toNat)
      (List.forall_mem_map.mpr fun b _ => b.toNat_lt) 0 [] [] (by decide) rfl
  rw [List.nil_append, List.map_map] at hc
  replace hc : Chunked 5 (bytesToBits data) gs R := by rw [bytesToBits_eq]; exact hc
  have hsplit := hc.split_padRight (by decide)
    fun h => hne (List.eq_nil_of_length_eq_zero (by
      have := congrArg List.length h
      rw [bytesToBits_length, List.length_nil] at this
      omega))
  simp only [Spec.Bech32.convertbits, Nat.one_shiftLeft, List.length_nil ▸ hloop, if_true, List.nil_append,
    shl_mask _ _ _ (Nat.le_of_lt hc.rem), hR, bytesToIndices, bech32_BitGroupSize, hsplit]
  by_cases hr : R.length ≠ 0
  · simp only [if_pos hr, List.map_append, List.map_cons, List.map_nil, bitsToNat_append,
      bitsToNat_replicate_false, List.length_replicate, Nat.add_zero]
  · simp only [if_neg hr]

theorem createChecksum_eq_spec (hrp : Bytes) (values : List Nat) :
    createChecksum hrp values = Spec.Bech32.createChecksum hrp values := by
  rw [createChecksum_eq]
  simp only [Spec.Bech32.createChecksum, digits6, tailState, ← polymod_eq_pm, polymod_eq_spec,
    Nat.shiftRight_eq_div_pow, and_31]
  rfl

theorem filterMap_charset (vals : List Nat) (h : ∀ v ∈ vals, v < 32) :
    vals.filterMap (fun d => Spec.Bech32.charset[d]?) = vals.map achar := by
  induction vals with
  | nil => rfl
  | cons v vs ih =>
    have hget : Spec.Bech32.charset[v]? = some (achar v) := by
      rw [charset_eq]; exact achar_get (h v (by simp))
    rw [List.filterMap_cons, hget, List.map_cons, ih (fun x hx => h x (by simp [hx]))]

theorem encode_eq_spec (hrp : Bytes) (version : Nat) (data : Bytes) (hne : data ≠ []) (hv : version < 32)
    (hlen : hrp.length + 1 + (1 + (bytesToIndices data).length) + 6 ≤ 90) :
    Spec.Bech32.toOutcome (Spec.Bech32.bip173Encode hrp version data) = encode hrp version data := by
  rw [encode_normal hrp version data hne hv hlen]
  unfold Spec.Bech32.bip173Encode
  rw [convertbits8_eq data hne]
  simp only
  rw [← createChecksum_eq_spec, filterMap_charset _ (encode_values_lt hrp version hv data hne)]
  rfl

end BtcVerif.Proofs.Bech32
