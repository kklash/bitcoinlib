/-
  Decoders of the shape "Base58Check-decode the string, then parse the payload" (addresses, WIF,
  extended keys, BIP38): what they inherit from the Base58Check round trips whatever the payload
  parser is, with the version-byte and list-splitting facts the payload parsers are reasoned about with.
-/
import BtcVerif.Proofs.Base58

namespace BtcVerif.Proofs.CheckPayload
open BtcVerif BtcVerif.Model

theorem decode_encode_bind {ρ} (ck : Bytes → Bytes) (hck : ∀ x, (ck x).length = 4) (f : Bytes → Outcome ρ)
    (d : Bytes) : (Base58Check.decode ck (Base58Check.encode ck d) >>= f) = f d := by
  rw [Base58.Check.decode_encode ck hck d]; rfl

/-- the canonicity step of every format: a value comes from a payload the parser accepts, and the string
    is the encoding of that payload (`Base58.Check.encode_decode`) -/
theorem decode_bind_eq_ok {ρ} {ck : Bytes → Bytes} {f : Bytes → Outcome ρ} {s : Bytes} {r : ρ}
    (h : (Base58Check.decode ck s >>= f) = .ok r) :
    ∃ d, Base58Check.decode ck s = .ok d ∧ Base58Check.encode ck d = s ∧ f d = .ok r := by
  obtain ⟨d, hd, hf⟩ := Outcome.bind_eq_ok.mp h
  exact ⟨d, hd, Base58.Check.encode_decode ck s d hd, hf⟩

theorem decode_bind_ne_panic {ρ} (ck : Bytes → Bytes) {f : Bytes → Outcome ρ} (s : Bytes)
    (hf : ∀ d, f d ≠ .panic) : (Base58Check.decode ck s >>= f) ≠ .panic :=
  Outcome.bind_ne_panic (Base58.Check.decode_ne_panic ck s) hf

theorem versionBytes_small {v : Nat} (h : v ≤ 255) : Base58Check.versionBytes v = [UInt8.ofNat v] := by
  have hm : v % 256 = v := Nat.mod_eq_of_lt (by omega)
  simp [Base58Check.versionBytes, Gen.Guards.base58check_EncodeVersion_0, h, beBytes, leBytes, hm]

theorem versionBytes_big {v : Nat} (h : 255 < v) :
    Base58Check.versionBytes v = [UInt8.ofNat (v / 256 % 256), UInt8.ofNat (v % 256)] := by
  have : ¬ v ≤ 255 := by omega
  simp [Base58Check.versionBytes, Gen.Guards.base58check_EncodeVersion_0, this, beBytes, leBytes]

theorem versionBytes_byte (a : UInt8) : Base58Check.versionBytes a.toNat = [a] := by
  rw [versionBytes_small (Nat.le_of_lt_succ a.toNat_lt), UInt8.ofNat_toNat]

theorem versionBytes_two (a b : UInt8) (ha : a.toNat ≠ 0) :
    Base58Check.versionBytes (a.toNat * 256 + b.toNat) = [a, b] := by
  have h1 : (a.toNat * 256 + b.toNat) / 256 % 256 = a.toNat := by
    rw [Nat.mul_comm, Nat.mul_add_div (by decide), Nat.div_eq_of_lt b.toNat_lt, Nat.add_zero,
      Nat.mod_eq_of_lt a.toNat_lt]
  have h2 : (a.toNat * 256 + b.toNat) % 256 = b.toNat := by
    rw [Nat.mul_comm, Nat.mul_add_mod, Nat.mod_eq_of_lt b.toNat_lt]
  rw [versionBytes_big (by omega), h1, h2, UInt8.ofNat_toNat, UInt8.ofNat_toNat]

/-- a list of `n + m` elements is a block of `n` followed by a block of `m`: how the payload parsers'
    byte strings are cut into named fields instead of `take`/`drop` expressions -/
theorem exists_append {α} {n m : Nat} (l : List α) (h : l.length = n + m) :
    ∃ a b, l = a ++ b ∧ a.length = n ∧ b.length = m :=
  ⟨l.take n, l.drop n, (List.take_append_drop n l).symm, List.length_take_of_le (by omega),
    by rw [List.length_drop, h, Nat.add_sub_cancel_left]⟩

end BtcVerif.Proofs.CheckPayload
