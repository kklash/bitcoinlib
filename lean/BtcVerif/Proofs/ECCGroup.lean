/-
  Lemmas for C04 / C05 / C06 that need the group, over the abstract curve `CurveAbs`
  (Proofs/CurveAbs.lean): public keys, ECDH, sums of x-only keys, ECDSA / Schnorr verification =
  reference verifier, sign-then-verify, the high-S twin.
-/
import BtcVerif.Proofs.ECC
namespace BtcVerif.Proofs.ECC
open BtcVerif BtcVerif.Model.ECC BtcVerif.Gen.Guards BtcVerif.Proofs
open BtcVerif.Spec.ECC (liftX validPoint parsePoint encodeCompressed encodeUncompressed encodeXOnly IsStandardEncoding)

/-! congruences `% n` are proved in `ZMod n`; the next two lemmas go there and back -/

theorem cast_of_mod_eq_one {n x : ℕ} (hn : 1 < n) (h : x % n = 1) : (x : ZMod n) = 1 := by
  have : x % n = 1 % n := by rw [h, Nat.mod_eq_of_lt hn]
  have := (ZMod.natCast_eq_natCast_iff' x 1 n).mpr this
  simpa using this

theorem mod_eq_of_cast {n a b : ℕ} (h : (a : ZMod n) = b) : a % n = b % n :=
  (ZMod.natCast_eq_natCast_iff' a b n).mp h

/-- the verifier's `u₁ + u₂·d` recovers the nonce: `s⁻¹z + s⁻¹r·d = k` when `s = k⁻¹(rd + z)` -/
theorem ecdsa_arith {n k ik d z r si : ℕ} (hn : 1 < n) (hik : ik * k % n = 1)
    (hsi : si * (ik * (r * d + z) % n) % n = 1) :
    (si * z % n + si * r % n * d) % n = k % n := by
  apply mod_eq_of_cast
  have h1 := cast_of_mod_eq_one hn hik
  have h2 := cast_of_mod_eq_one hn hsi
  push_cast [ZMod.natCast_mod] at h1 h2 ⊢
  linear_combination (-(si * (z + r * d) : ZMod n)) * h1 + (k : ZMod n) * h2

/-- `(n − s)⁻¹ = −s⁻¹`, applied to `z`: the two products cancel modulo `n` -/
theorem inv_twin {n s si si' z : ℕ} (hn : 1 < n) (hs : s ≤ n) (h1 : si * s % n = 1)
    (h2 : si' * (n - s) % n = 1) : (si' * z % n + si * z % n) % n = 0 := by
  rw [← Nat.zero_mod n]
  apply mod_eq_of_cast
  have h1 := cast_of_mod_eq_one hn h1
  have h2 := cast_of_mod_eq_one hn h2
  push_cast [ZMod.natCast_mod, Nat.cast_sub hs, ZMod.natCast_self] at h1 h2 ⊢
  linear_combination (-(si' * z : ZMod n)) * h1 + (-(si * z : ZMod n)) * h2

variable {C : CurveOps} (H : CurveAbs C)
include H

theorem mod_n_lt (x : Nat) : x % C.n < 2 ^ 256 :=
  Nat.lt_trans (Nat.mod_lt x H.n_pos) H.n_lt

theorem xy_fst_lt (P : H.Pt) : (H.xy P).1 < 2 ^ 256 := by
  by_cases hP : P = 0
  · subst hP; rw [H.xy_zero]; exact Nat.two_pow_pos 256
  · exact Nat.lt_trans (H.on_curve' P hP).1 H.field.p_lt

theorem xy_snd_lt (P : H.Pt) : (H.xy P).2 < 2 ^ 256 := by
  by_cases hP : P = 0
  · subst hP; rw [H.xy_zero]; exact Nat.two_pow_pos 256
  · exact Nat.lt_trans (H.on_curve' P hP).2.1 H.field.p_lt

theorem deserialize_is_point {bs : Bytes} {Q : Pt} (h : deserializePoint C bs = .ok Q) :
    ∃ P : H.Pt, P ≠ 0 ∧ H.xy P = Q :=
  H.surj Q (deserialize_sound H.field h).1

theorem mulBase_valid {k : Nat} (hk : isValidScalar C k = true) :
    mulBase C k = .ok (H.xy (k • H.G)) ∧ k • H.G ≠ 0 := by
  obtain ⟨h0, hn⟩ := (isValidScalar_iff k).mp hk
  exact ⟨H.mulBase_eq (Nat.lt_trans hn H.n_lt), H.nsmul_G_ne_zero h0 hn⟩

theorem getPublicKeyCompressed_spec (priv : Bytes) (hv : isValidScalar C (beNat priv) = true) :
    getPublicKeyCompressed C priv = .ok (encodeCompressed (H.xy (beNat priv • H.G))) := by
  obtain ⟨hm, hne⟩ := mulBase_valid H hv
  unfold getPublicKeyCompressed
  rw [hm, Outcome.bind_ok, serializeCompressed_valid H.field (H.on_curve _ hne)]

theorem getPublicKeyUncompressed_spec (priv : Bytes) (hv : isValidScalar C (beNat priv) = true) :
    getPublicKeyUncompressed C priv = .ok (encodeUncompressed (H.xy (beNat priv • H.G))) := by
  obtain ⟨hm, hne⟩ := mulBase_valid H hv
  unfold getPublicKeyUncompressed
  rw [hm, Outcome.bind_ok, serializeUncompressed_valid H.field (H.on_curve _ hne)]

theorem getPublicKeySchnorr_spec (priv : Bytes) (hv : isValidScalar C (beNat priv) = true) :
    getPublicKeySchnorr C priv = .ok (encodeXOnly (H.xy (beNat priv • H.G))) := by
  unfold getPublicKeySchnorr
  rw [(mulBase_valid H hv).1, Outcome.bind_ok, fillBytes32_lt (xy_fst_lt H _)]
  rfl

theorem sharedSecret_eq (a : Nat) (ha : a < 2 ^ 256) (P : H.Pt) :
    sharedSecret C a (H.xy P) = .ok (beBytes 32 (H.xy (a • P)).1) := by
  unfold sharedSecret
  rw [H.mulAffine_eq a P ha, Outcome.bind_ok, fillBytes32_lt (xy_fst_lt H _)]

theorem ecdh_symm (a b : Nat) (ha : a < 2 ^ 256) (hb : b < 2 ^ 256) :
    sharedSecret C a (H.xy (b • H.G)) = .ok (beBytes 32 (H.xy ((a * b) • H.G)).1) ∧
    sharedSecret C b (H.xy (a • H.G)) = .ok (beBytes 32 (H.xy ((a * b) • H.G)).1) := by
  rw [sharedSecret_eq H a ha, sharedSecret_eq H b hb]
  exact ⟨by rw [mul_nsmul'], by rw [mul_nsmul]⟩

theorem sumPubLoop_spec (Ps : List H.Pt) (A : H.Pt)
    (h : ∀ P ∈ Ps, P ≠ 0 ∧ (H.xy P).2 % 2 = 0) :
    sumPubLoop C (Ps.map (fun P => encodeXOnly (H.xy P))) (H.xy A) = .ok (H.xy (A + Ps.sum)) := by
  induction Ps generalizing A with
  | nil => rw [List.sum_nil, add_zero]; rfl
  | cons P Ps ih =>
    obtain ⟨hP, he⟩ := h P List.mem_cons_self
    have g : ecc_SumPublicKeys_0 (encodeXOnly (H.xy P)).length = false :=
      (lenGuard _ 32).trans (by rw [encodeXOnly_length]; rfl)
    simp only [List.map_cons, sumPubLoop, g, Bool.false_eq_true, if_false, deserialize_encodeXOnly H.field (H.on_curve P hP) he, H.add_spec]
    rw [ih _ fun Q hQ => h Q (List.mem_cons_of_mem _ hQ), List.sum_cons, add_assoc]

theorem eklipticVerify_eq (z r s : Nat) (P : H.Pt) :
    eklipticVerify C z r s (H.xy P) =
      .ok (decide (r = (H.xy ((C.invN s * z % C.n) • H.G + (C.invN s * r % C.n) • P)).1 % C.n)) := by
  simp only [eklipticVerify, H.mulBase_eq (mod_n_lt H _), H.mulAffine_eq _ _ (mod_n_lt H _), Outcome.bind_ok,
    H.add_spec, Outcome.pure_eq]

theorem verifyECDSA_of_key {pub hash : Bytes} {r s : Nat} {P : H.Pt} (hh : hash.length = 32)
    (hr : isValidScalar C r = true) (hs : isValidScalar C s = true)
    (hd : deserializePoint C pub = .ok (H.xy P)) :
    verifyECDSA C pub hash r s =
      .ok (decide (r = (H.xy ((C.invN s * beNat hash % C.n) • H.G + (C.invN s * r % C.n) • P)).1 % C.n)) := by
  rw [verifyECDSA_eq, if_neg (not_not.mpr hh), hr, hs, hd]
  exact eklipticVerify_eq H _ r s P

theorem verifyECDSA_true_inv {pub hash : Bytes} {r s : Nat} (h : verifyECDSA C pub hash r s = .ok true) :
    hash.length = 32 ∧ isValidScalar C r = true ∧ isValidScalar C s = true ∧
      ∃ P : H.Pt, P ≠ 0 ∧ deserializePoint C pub = .ok (H.xy P) := by
  rw [verifyECDSA_eq] at h
  split at h
  · cases h
  split at h
  · rename_i hh hv
    rw [Bool.and_eq_true] at hv
    refine ⟨not_not.mp hh, hv.1, hv.2, ?_⟩
    cases hd : deserializePoint C pub with
    | err => rw [hd] at h; cases h
    | panic => rw [hd] at h; cases h
    | ok Q =>
      obtain ⟨P, hP, rfl⟩ := deserialize_is_point H hd
      exact ⟨P, hP, rfl⟩
  · cases h

theorem parsePoint_is_point {bs : Bytes} {Q : Pt} (h : parsePoint C bs = some Q) :
    ∃ P : H.Pt, P ≠ 0 ∧ H.xy P = Q :=
  H.surj Q (standard_of_parsePoint H.field h).1

/-- the model verifier is the SEC 1 verifier with strict key parsing, for every input with a 32-byte hash -/
theorem verifyECDSA_eq_spec (pub hash : Bytes) (r s : Nat) (hh : hash.length = 32) :
    verifyECDSA C pub hash r s = .ok (Spec.ECC.verifyECDSA C pub hash r s) := by
  rw [verifyECDSA_eq, if_neg (not_not.mpr hh), deserializePoint_eq_spec H.field]
  unfold Spec.ECC.verifyECDSA
  rw [specRange_eq]
  cases hp : parsePoint C pub with
  | none => cases isValidScalar C r && isValidScalar C s <;> rfl
  | some Q =>
    obtain ⟨P, hP, rfl⟩ := parsePoint_is_point H hp
    cases hv : isValidScalar C r && isValidScalar C s
    · rfl
    · have hr0 : r ≠ 0 := by
        rw [Bool.and_eq_true, isValidScalar_iff] at hv
        omega
      -- both sides compute `R = u₁·G + u₂·P`; the model compares `r` with `x(R) mod n`, which for
      -- `R = O = (0,0)` is `0 ≠ r`, the reference rejects `O` outright
      simp only [ofOption_some, if_true, Bool.not_true, Bool.false_eq_true, if_false, eklipticVerify_eq H,
        Nat.mul_comm _ (C.invN s), ← H.xy_G, H.mul_spec, H.add_spec]
      by_cases hR : (C.invN s * beNat hash % C.n) • H.G + (C.invN s * r % C.n) • P = 0
      · rw [hR, (H.isInfinity_xy 0).mpr rfl, H.xy_zero, if_pos rfl, Nat.zero_mod, decide_eq_false hr0]
      · rw [if_neg (fun h => hR ((H.isInfinity_xy _).mp h))]
        exact congrArg _ (decide_eq_decide.mpr eq_comm)

/-- the documented acceptance of the non-canonical twin: (r, s) valid ⇒ (r, n − s) valid -/
theorem verify_highS_twin {pub hash : Bytes} {r s : Nat} (h : verifyECDSA C pub hash r s = .ok true) :
    verifyECDSA C pub hash r (C.n - s) = .ok true := by
  obtain ⟨hh, hr, hs, P, hP, hd⟩ := verifyECDSA_true_inv H h
  obtain ⟨hs0, hsn⟩ := (isValidScalar_iff s).mp hs
  have hs' : isValidScalar C (C.n - s) = true := (isValidScalar_iff _).mpr ⟨by omega, by omega⟩
  rw [verifyECDSA_of_key H hh hr hs hd] at h
  rw [verifyECDSA_of_key H hh hr hs' hd]
  have i1 := H.invN_spec s hs0 hsn
  have i2 := H.invN_spec (C.n - s) (by omega) (by omega)
  rw [H.nsmul_neg_of_add (inv_twin (z := beNat hash) H.n_gt hsn.le i1 i2) H.G,
    H.nsmul_neg_of_add (inv_twin (z := r) H.n_gt hsn.le i1 i2) P, ← neg_add, H.neg_x]
  exact h

/-- the verifier accepts `r = x(k·G) mod n`, `s = k⁻¹(rd + z)` under a key that decodes to `d·G`:
    there `u₁·G + u₂·(d·G) = k·G` -/
theorem verifyECDSA_of_nonce {pub hash : Bytes} {k d r s : Nat} (hh : hash.length = 32)
    (hk : isValidScalar C k = true) (hr : r = (H.xy (k • H.G)).1 % C.n) (hr0 : r ≠ 0)
    (hs : s = C.invN k * (r * d + beNat hash) % C.n) (hs0 : s ≠ 0)
    (hdec : deserializePoint C pub = .ok (H.xy (d • H.G))) : verifyECDSA C pub hash r s = .ok true := by
  obtain ⟨hk0, hkn⟩ := (isValidScalar_iff _).mp hk
  have hrn : r < C.n := hr ▸ Nat.mod_lt _ H.n_pos
  have hsn : s < C.n := hs ▸ Nat.mod_lt _ H.n_pos
  rw [verifyECDSA_of_key H hh ((isValidScalar_iff _).mpr ⟨by omega, hrn⟩) ((isValidScalar_iff _).mpr ⟨by omega, hsn⟩)
    hdec, ← mul_nsmul', ← add_nsmul, H.nsmul_congr (ecdsa_arith (d := d) (z := beNat hash) (r := r) H.n_gt
      (H.invN_spec _ hk0 hkn) (hs ▸ H.invN_spec s (by omega) hsn)), decide_eq_true hr]

theorem ecdsa_sign_verify {S : SigOps} {priv hash pub : Bytes} {r s : Nat}
    (hsig : signECDSA C S priv hash = .ok (r, s)) (hr0 : r ≠ 0) (hs0 : s ≠ 0)
    (hpub : getPublicKeyCompressed C priv = .ok pub ∨ getPublicKeyUncompressed C priv = .ok pub) :
    verifyECDSA C pub hash r s = .ok true := by
  obtain ⟨hh, _, he⟩ := signECDSA_inv hsig
  obtain ⟨hk, hd, R, hR, hr, hs⟩ := eklipticSign_inv he
  obtain ⟨_, hne⟩ := mulBase_valid H hd
  cases ((mulBase_valid H hk).1.symm.trans hR)
  have hdec : deserializePoint C pub = .ok (H.xy (beNat priv • H.G)) := by
    rcases hpub with hp | hp
    · cases (getPublicKeyCompressed_spec H priv hd).symm.trans hp
      exact deserialize_encodeCompressed H.field (H.on_curve _ hne)
    · cases (getPublicKeyUncompressed_spec H priv hd).symm.trans hp
      exact deserialize_encodeUncompressed H.field (H.on_curve _ hne)
  -- the signer returns `s₀ = k⁻¹(rd + z)` or its twin `n − s₀`
  split at hs
  · rw [hs]; exact verify_highS_twin H (verifyECDSA_of_nonce H hh hk hr hr0 rfl (by omega) hdec)
  · exact verifyECDSA_of_nonce H hh hk hr hr0 hs hs0 hdec

/-- the last line of VerifySchnorr on a group element: "not infinity, even y, x = r" -/
theorem schnorrFinal_eq (R : H.Pt) (r : Nat) :
    ecc_VerifySchnorr_5 (decide ((H.xy R).1 = 0)) (decide ((H.xy R).2 = 0)) (isEven (H.xy R).2)
        (decide ((H.xy R).1 = r)) =
      (if Spec.ECC.isInfinity (H.xy R) then false
       else if (H.xy R).2 % 2 ≠ 0 then false else decide ((H.xy R).1 = r)) := by
  by_cases hR : R = 0
  · subst hR
    simp [ecc_VerifySchnorr_5, H.xy_zero, Spec.ECC.isInfinity]
  · have hc := H.coords_ne_zero R hR
    have hi : Spec.ECC.isInfinity (H.xy R) = false := by
      rw [Bool.eq_false_iff]; exact fun h => hR ((H.isInfinity_xy _).mp h)
    simp only [ecc_VerifySchnorr_5, hc.1, hc.2, decide_false, Bool.not_false, Bool.and_self, Bool.true_and,
      isEven, ecc_isEven_0, hi, Bool.false_eq_true, if_false]
    by_cases he : (H.xy R).2 % 2 = 0
    · simp [he]
    · simp [he]

theorem verifySchnorr_of_key (S : SigOps) {pub msg sig : Bytes} {P : H.Pt} (hm : msg.length = 32)
    (hs : sig.length = 64) (hp : pub.length = 32) (hd : deserializePoint C pub = .ok (H.xy P))
    (hr : beNat (sig.take 32) < C.p) (hsn : beNat (sig.drop 32) < C.n) :
    verifySchnorr C S pub msg sig =
      .ok (let R := H.xy (beNat (sig.drop 32) • H.G -
              (beNat (S.hChallenge (beBytes 32 (beNat (sig.take 32)) ++ pub ++ msg)) % C.n) • P)
           ecc_VerifySchnorr_5 (decide (R.1 = 0)) (decide (R.2 = 0)) (isEven R.2)
             (decide (R.1 = beNat (sig.take 32)))) := by
  have g0 : ecc_VerifySchnorr_0 msg.length = false := (lenGuard _ 32).trans (by rw [hm]; rfl)
  have g1 : ecc_VerifySchnorr_1 sig.length = false := (lenGuard _ 64).trans (by rw [hs]; rfl)
  have g2 : ecc_VerifySchnorr_2 pub.length = false := (lenGuard _ 32).trans (by rw [hp]; rfl)
  unfold verifySchnorr
  simp only [g0, g1, g2, hd, Bool.false_eq_true, if_false, ecc_VerifySchnorr_3, ecc_VerifySchnorr_4, cmpGuard,
    decide_eq_true_eq, ge_iff_le, Nat.not_le.mpr hr, Nat.not_le.mpr hsn,
    fillBytes32_lt (Nat.lt_trans hr H.field.p_lt), Outcome.bind_ok, H.mulBase_eq (Nat.lt_trans hsn H.n_lt),
    H.mulAffine_eq _ _ (mod_n_lt H _), H.subAffine_eq, Outcome.pure_eq]

/-- the model verifier is the BIP340 reference verifier, for every input of the right lengths -/
theorem verifySchnorr_eq_spec (S : SigOps) (pub msg sig : Bytes) (hm : msg.length = 32) (hs : sig.length = 64) :
    verifySchnorr C S pub msg sig = .ok (Spec.ECC.verifySchnorr C S.hChallenge pub msg sig) := by
  unfold Spec.ECC.verifySchnorr
  by_cases hp : pub.length = 32
  · simp only [hp, hs, ne_eq, not_true_eq_false, decide_false, Bool.or_self, Bool.false_eq_true, if_false]
    have hd := deserializePoint_eq_spec H.field pub
    rw [parsePoint_len32 hp] at hd
    cases hl : liftX C (beNat pub) with
    | none => exact verifySchnorr_reject S pub msg sig hm hs (Or.inr (Or.inl (by rw [hd, hl]; rfl)))
    | some Q =>
      obtain ⟨hQ1, hQv, _⟩ := (liftX_eq_some_iff H.field).mp hl
      obtain ⟨P, hP, rfl⟩ := H.surj Q hQv
      rw [hl] at hd
      dsimp only
      by_cases hr : beNat (sig.take 32) ≥ C.p
      · rw [if_pos hr]; exact verifySchnorr_reject S pub msg sig hm hs (Or.inr (Or.inr (Or.inl hr)))
      by_cases hsn : beNat (sig.drop 32) ≥ C.n
      · rw [if_neg hr, if_pos hsn]; exact verifySchnorr_reject S pub msg sig hm hs (Or.inr (Or.inr (Or.inr hsn)))
      rw [if_neg hr, if_neg hsn]
      have hpub : beBytes 32 (H.xy P).1 = pub := by rw [hQ1]; exact beBytes32_beNat hp
      rw [verifySchnorr_of_key H S hm hs hp hd (Nat.not_le.mp hr) (Nat.not_le.mp hsn), hpub, ← H.xy_G]
      simp only [H.mul_spec, H.specNeg_eq, H.add_spec, ← sub_eq_add_neg, schnorrFinal_eq H]
  · rw [verifySchnorr_reject S pub msg sig hm hs (Or.inl hp)]
    simp [hp]

noncomputable def evenLift (P : H.Pt) : H.Pt := if (H.xy P).2 % 2 = 0 then P else -P

theorem evenLift_props (P : H.Pt) (hP : P ≠ 0) :
    evenLift H P ≠ 0 ∧ (H.xy (evenLift H P)).2 % 2 = 0 ∧ (H.xy (evenLift H P)).1 = (H.xy P).1 := by
  unfold evenLift
  split
  · rename_i he; exact ⟨hP, he, rfl⟩
  · rename_i ho
    exact ⟨neg_ne_zero.mpr hP, (H.neg_even P hP).mpr (Nat.mod_two_ne_zero.mp ho), H.neg_x P⟩

/-- BIP340's choice of sign for a secret scalar: `k` when `k·G` has even `y`, else `n − k` -/
def evenScalar (k : Nat) : Nat := if (H.xy (k • H.G)).2 % 2 = 0 then k else C.n - k

theorem evenScalar_smul {k : Nat} (hn : k < C.n) : evenScalar H k • H.G = evenLift H (k • H.G) := by
  unfold evenScalar evenLift
  split
  · rfl
  · apply H.nsmul_neg_of_add
    rw [Nat.sub_add_cancel hn.le, Nat.mod_self]

/-- the Go code's `if !isEven(y) { k = n − k }` -/
theorem negIfOdd (k : Nat) :
    (if !isEven (H.xy (k • H.G)).2 then C.n - k else k) = evenScalar H k := by
  unfold isEven ecc_isEven_0 evenScalar
  by_cases he : (H.xy (k • H.G)).2 % 2 = 0 <;> simp [he]

/-- a produced signature is `x(k₀·G) ‖ (k + e·d) mod n` for a nonce `k₀ ∈ [1, n−1]`, with `k`, `d` the
    BIP340 sign choices `evenScalar` of `k₀` and the secret key, `e` the challenge hash -/
theorem signSchnorr_inv {S : SigOps} {priv msg aux sig : Bytes} (h : signSchnorr C S priv msg aux = .ok sig) :
    msg.length = 32 ∧ isValidScalar C (beNat priv) = true ∧
    ∃ k0, 0 < k0 ∧ k0 < C.n ∧
      sig = beBytes 32 (H.xy (k0 • H.G)).1 ++
        beBytes 32 ((evenScalar H k0 +
          beNat (S.hChallenge (beBytes 32 (H.xy (k0 • H.G)).1 ++ beBytes 32 (H.xy (beNat priv • H.G)).1 ++ msg))
            % C.n * evenScalar H (beNat priv)) % C.n) := by
  unfold signSchnorr at h
  by_cases h0 : ecc_SignSchnorr_0 msg.length = true
  · rw [if_pos h0] at h; cases h
  rw [if_neg h0] at h
  by_cases h1 : ecc_SignSchnorr_1 priv.length = true
  · rw [if_pos h1] at h; cases h
  rw [if_neg h1] at h
  by_cases h2 : ecc_SignSchnorr_2 aux.length = true
  · rw [if_pos h2] at h; cases h
  rw [if_neg h2] at h
  by_cases h3 : ecc_SignSchnorr_3 (isValidScalar C (beNat priv)) = true
  · rw [if_pos h3] at h; cases h
  rw [if_neg h3] at h
  have hv : isValidScalar C (beNat priv) = true := by simpa [ecc_SignSchnorr_3] using h3
  rw [(mulBase_valid H hv).1, Outcome.bind_ok] at h
  obtain ⟨pb, hpb, h⟩ := Outcome.bind_eq_ok.mp h
  obtain ⟨db, _, h⟩ := Outcome.bind_eq_ok.mp h
  obtain ⟨t, _, h⟩ := Outcome.bind_eq_ok.mp h
  dsimp only at h
  have hkn := Nat.mod_lt (beNat (S.hNonce (t ++ pb ++ msg))) H.n_pos
  generalize beNat (S.hNonce (t ++ pb ++ msg)) % C.n = k0 at h hkn
  by_cases hk0 : ecc_SignSchnorr_5 (decide (k0 = 0)) = true
  · rw [if_pos hk0] at h; cases h
  rw [if_neg hk0, H.mulBase_eq (Nat.lt_trans hkn H.n_lt), Outcome.bind_ok] at h
  obtain ⟨rb, hrb, h⟩ := Outcome.bind_eq_ok.mp h
  obtain ⟨sb, hsb, h⟩ := Outcome.bind_eq_ok.mp h
  cases h
  cases (fillBytes32_eq_ok.mp hpb).2
  cases (fillBytes32_eq_ok.mp hrb).2
  cases (fillBytes32_eq_ok.mp hsb).2
  rw [show ecc_SignSchnorr_0 msg.length = decide (msg.length ≠ 32) from lenGuard _ 32, decide_eq_true_eq,
    not_not] at h0
  refine ⟨h0, hv, k0,
    Nat.pos_of_ne_zero (by simpa [ecc_SignSchnorr_5] using hk0), hkn, ?_⟩
  rw [← negIfOdd H k0, ← negIfOdd H (beNat priv)]
  rfl

theorem schnorr_sign_verify {S : SigOps} {priv msg aux sig pub : Bytes}
    (hsig : signSchnorr C S priv msg aux = .ok sig) (hpub : getPublicKeySchnorr C priv = .ok pub) :
    verifySchnorr C S pub msg sig = .ok true := by
  obtain ⟨hm, hv, k0, hk0, hkn, rfl⟩ := signSchnorr_inv H hsig
  obtain ⟨_, hdn⟩ := (isValidScalar_iff _).mp hv
  obtain ⟨_, hne⟩ := mulBase_valid H hv
  have hnek : k0 • H.G ≠ 0 := H.nsmul_G_ne_zero hk0 hkn
  cases (getPublicKeySchnorr_spec H priv hv).symm.trans hpub
  obtain ⟨hPe0, hPeven, hPx⟩ := evenLift_props H (beNat priv • H.G) hne
  obtain ⟨hRe0, hReven, hRx⟩ := evenLift_props H (k0 • H.G) hnek
  -- the x-only key decodes to the even-y representative of `d·G`, which is `evenScalar d · G`
  have hdec : deserializePoint C (encodeXOnly (H.xy (beNat priv • H.G))) =
      .ok (H.xy (evenLift H (beNat priv • H.G))) := by
    have := deserialize_encodeXOnly H.field (H.on_curve _ hPe0) hPeven
    rwa [encodeXOnly, hPx] at this
  have hr := fun t => beNat_take32 (xy_fst_lt H (k0 • H.G)) t
  have hs := fun y => beNat_drop32 (H.xy (k0 • H.G)).1 (mod_n_lt H y)
  rw [verifySchnorr_of_key H S hm (by rw [List.length_append, beBytes_length, beBytes_length])
    (encodeXOnly_length _) hdec (by rw [hr]; exact (H.on_curve' _ hnek).1) (by rw [hs]; exact Nat.mod_lt _ H.n_pos)]
  simp only [hr, hs, encodeXOnly]
  generalize beNat (S.hChallenge (beBytes 32 (H.xy (k0 • H.G)).1 ++ beBytes 32 (H.xy (beNat priv • H.G)).1 ++ msg))
    % C.n = e
  -- s·G − e·P = (k + e·d)·G − e·(d·G) = k·G, with even `y` by the choice of `k`
  rw [H.nsmul_mod, add_nsmul, mul_nsmul', evenScalar_smul H hdn, evenScalar_smul H hkn, add_sub_cancel_right]
  have hc := H.coords_ne_zero _ hRe0
  rw [hRx] at hc
  simp [ecc_VerifySchnorr_5, hc.1, hc.2, isEven, ecc_isEven_0, hReven, hRx]

end BtcVerif.Proofs.ECC
