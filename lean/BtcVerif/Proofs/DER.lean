/-
  C11, the decoder: `Model/DER.decode` stage by stage.

  Each stage returns its value exactly when an index-level predicate on the bytes holds (`HeadOK`,
  `IntOK`, `SOK`) and the error otherwise (`Checks`); a panic is excluded because every
  bounds-checked read is in range by the tests before it. `decode_checks` composes the stages into
  `Valid`, and `bip66_iff_valid` identifies `Valid` with the independent transcription `Spec.bip66`;
  `bip66With_any_default` is the fact that the transcription never reads out of range.
-/
import BtcVerif.Model.DER
import BtcVerif.Spec.BIP66
import BtcVerif.Proofs.Digits
namespace BtcVerif.Model.DER
open BtcVerif BtcVerif.Gen.Guards BtcVerif.Spec

/-- `x` returns `v` when `P` holds and the error when it does not: in particular it never panics -/
def Checks {α} (x : Outcome α) (P : Prop) (v : α) : Prop := (P ∧ x = .ok v) ∨ (¬ P ∧ x = .err)

namespace Checks
variable {α β : Type} {x : Outcome α} {P Q : Prop} {v : α}

theorem iff (h : Checks x P v) (hpq : P ↔ Q) : Checks x Q v := by
  rwa [Checks, ← hpq]

theorem ok (v : α) : Checks (.ok v) True v := .inl ⟨trivial, rfl⟩

/-- a test `c` of the Go code that fails exactly when `P` does not hold, in front of `x` -/
theorem guard {c : Bool} (hc : c = true ↔ ¬ P) (hx : P → Checks x Q v) :
    Checks (if c then .err else x) (P ∧ Q) v := by
  cases c
  · have hp : P := Classical.byContradiction fun h => Bool.noConfusion (hc.mpr h)
    rcases hx hp with ⟨hq, e⟩ | ⟨hq, e⟩
    · exact .inl ⟨⟨hp, hq⟩, e⟩
    · exact .inr ⟨fun h => hq h.2, e⟩
  · exact .inr ⟨fun h => hc.mp rfl h.1, rfl⟩

theorem guard_ok {c : Bool} (hc : c = true ↔ ¬ P) : Checks (if c then .err else .ok v) P v :=
  (guard hc fun _ => ok v).iff (and_iff_left trivial)

theorem bind {f : α → Outcome β} {w : β} (hx : Checks x P v) (hf : P → Checks (f v) Q w) :
    Checks (x >>= f) (P ∧ Q) w := by
  rcases hx with ⟨hp, e⟩ | ⟨hp, e⟩
  · rw [e]
    rcases hf hp with ⟨hq, e'⟩ | ⟨hq, e'⟩
    · exact .inl ⟨⟨hp, hq⟩, e'⟩
    · exact .inr ⟨fun h => hq h.2, e'⟩
  · rw [e]; exact .inr ⟨fun h => hp h.1, rfl⟩

theorem isPanic (h : Checks x P v) : x.isPanic = false := by
  rcases h with ⟨_, e⟩ | ⟨_, e⟩ <;> rw [e] <;> rfl

theorem isOk_iff (h : Checks x P v) : x.isOk = true ↔ P := by
  rcases h with ⟨hp, e⟩ | ⟨hp, e⟩ <;> rw [e] <;> simp [Outcome.isOk, hp]

theorem eq_ok_iff (h : Checks x P v) (w : α) : x = .ok w ↔ P ∧ w = v := by
  rcases h with ⟨hp, e⟩ | ⟨hp, e⟩ <;> rw [e] <;> simp [hp, eq_comm]

theorem eq_ok (h : Checks x P v) (hp : P) : x = .ok v :=
  (h.eq_ok_iff v).mpr ⟨hp, rfl⟩

theorem eq_err (h : Checks x P v) (hp : ¬ P) : x = .err := by
  rcases h with ⟨hp', _⟩ | ⟨_, e⟩
  · exact absurd hp' hp
  · exact e

end Checks

/-- byte `i` of `bs` as a number, 0 when out of range -/
abbrev A (bs : Bytes) (i : Nat) : Nat := sigAt 0 bs i

theorem sigAt_lt (d : UInt8) (bs : Bytes) (i : Nat) : sigAt d bs i < 256 := (bs.getD i d).toNat_lt

theorem A_lt (bs : Bytes) (i : Nat) : A bs i < 256 := sigAt_lt 0 bs i

theorem idx_lt {bs : Bytes} {i : Nat} (h : i < bs.length) : idx bs i = .ok (bs.getD i 0) := by
  unfold idx
  simp [List.getD, List.getElem?_eq_getElem h]

theorem idx_ge {bs : Bytes} {i : Nat} (h : bs.length ≤ i) : idx bs i = .panic := by
  unfold idx
  simp [List.getElem?_eq_none h]

/-- the conditions `decHead` tests -/
def HeadOK (bs : Bytes) : Prop :=
  9 ≤ bs.length ∧ bs.length ≤ 73 ∧ A bs 0 = 48 ∧ A bs 1 = bs.length - 3 ∧ A bs 2 = 2 ∧
    5 + A bs 3 < bs.length ∧ A bs 3 ≠ 0

theorem decHead_checks (bs : Bytes) : Checks (decHead bs) (HeadOK bs) (A bs 3) := by
  unfold decHead HeadOK
  refine .guard (by simp only [der_DecodeSignature_0, decide_eq_true_eq]; omega) fun h9 => ?_
  refine .guard (by simp only [der_DecodeSignature_1, decide_eq_true_eq]; omega) fun _ => ?_
  rw [idx_lt (show 0 < bs.length by omega), idx_lt (show 1 < bs.length by omega),
    idx_lt (show 2 < bs.length by omega), idx_lt (show 3 < bs.length by omega)]
  refine .guard decide_eq_true_iff fun _ => ?_
  refine .guard (by simp only [der_DecodeSignature_3, decide_eq_true_eq, A, sigAt]; omega) fun _ => ?_
  refine .guard decide_eq_true_iff fun _ => ?_
  refine .guard_ok ?_
  simp only [der_DecodeSignature_5, Bool.or_eq_true, decide_eq_true_eq, A, sigAt]; omega

theorem msb_iff (b : UInt8) : msb b = true ↔ 128 ≤ b.toNat := by
  unfold msb der_mostSignificantBitFlipped_0
  rw [decide_eq_true_eq, (Proofs.and128 _ b.toNat_lt).2]

/-- the content bytes of a DER integer are those of a non-negative, minimally encoded number -/
def IntOK (p : Bytes) : Prop :=
  A p 0 < 128 ∧ ¬ (p.length > 1 ∧ A p 0 = 0 ∧ A p 1 < 128)

theorem hasExtra_iff (p : Bytes) :
    hasExtraNullBytes p = true ↔ (p.length > 1 ∧ A p 0 = 0 ∧ A p 1 < 128) := by
  unfold hasExtraNullBytes
  match p with
  | [] => simp [der_hasExtraNullBytes_0]
  | [a] => simp [der_hasExtraNullBytes_0]
  | a :: b :: rest =>
    simp only [der_hasExtraNullBytes_0, Bool.and_eq_true, decide_eq_true_eq, Bool.not_eq_true',
      ← Bool.not_eq_true, msb_iff, A, sigAt, List.getD_cons_zero, List.getD_cons_succ, List.length_cons]
    omega

theorem slice_ok {bs : Bytes} {lo k : Nat} (h : lo + k ≤ bs.length) :
    slice bs lo (lo + k) = .ok ((bs.drop lo).take k) := by
  unfold slice
  rw [if_pos ⟨by omega, h⟩, Nat.add_sub_cancel_left]

theorem sub_length {bs : Bytes} {lo k : Nat} (h : lo + k ≤ bs.length) :
    ((bs.drop lo).take k).length = k := by
  rw [List.length_take, List.length_drop]; omega

theorem sub_A {bs : Bytes} {lo k j : Nat} (hj : j < k) :
    A ((bs.drop lo).take k) j = A bs (lo + j) := by
  unfold A sigAt
  rw [List.getD_eq_getElem?_getD, List.getD_eq_getElem?_getD, List.getElem?_take_of_lt hj,
    List.getElem?_drop]

/-- sign test and padding test on a non-empty `p`, in front of the continuation `c` -/
theorem intBody_checks {β : Type} {p : Bytes} (hp : 0 < p.length) {c : Outcome β} {Q : Prop} {v : β}
    (hc : Checks c Q v) :
    Checks (do
      let r0 ← idx p 0
      if msb r0 then .err else if hasExtraNullBytes p then .err else c) (IntOK p ∧ Q) v := by
  rw [idx_lt hp]
  refine (Checks.guard (P := A p 0 < 128) ?_ fun _ => .guard ?_ fun _ => hc).iff and_assoc.symm
  · rw [msb_iff]; exact Nat.not_lt.symm
  · rw [hasExtra_iff, Classical.not_not]

theorem decR_checks (bs : Bytes) (k : Nat) (hk : 0 < k) (hlen : 4 + k ≤ bs.length) :
    Checks (decR bs k) (IntOK ((bs.drop 4).take k)) ((bs.drop 4).take k) := by
  unfold decR
  rw [slice_ok hlen]
  exact (intBody_checks (by rw [sub_length hlen]; exact hk) (.ok _)).iff (and_iff_left trivial)

/-- the conditions `decS` tests, for declared r length `k` -/
def SOK (bs : Bytes) (k : Nat) : Prop :=
  A bs (4 + k) = 2 ∧ k + A bs (5 + k) + 7 = bs.length ∧ A bs (5 + k) ≠ 0 ∧
    IntOK ((bs.drop (6 + k)).take (A bs (5 + k)))

theorem decS_checks (bs : Bytes) (k : Nat) (hlen : 5 + k < bs.length) :
    Checks (decS bs k) (SOK bs k) ((bs.drop (6 + k)).take (A bs (5 + k)), A bs (bs.length - 1)) := by
  unfold decS SOK
  simp only []
  rw [idx_lt (show 4 + k < bs.length by omega), idx_lt (show 4 + k + 1 < bs.length by omega),
    show 4 + k + 1 = 5 + k by omega, show 4 + k + 2 = 6 + k by omega]
  refine .guard decide_eq_true_iff fun _ => ?_
  refine .guard (by simp only [der_DecodeSignature_9, decide_eq_true_eq, A, sigAt]; omega) fun hsum => ?_
  refine .guard (by simp only [der_DecodeSignature_10, decide_eq_true_eq, A, sigAt]; omega) fun h0 => ?_
  have hl : 6 + k + A bs (5 + k) = bs.length - 1 := by omega
  have hs : 6 + k + A bs (5 + k) ≤ bs.length := by omega
  show Checks (slice bs (6 + k) (6 + k + A bs (5 + k)) >>= _) _ _
  rw [slice_ok hs]
  refine (intBody_checks (by rw [sub_length hs]; omega) ?_).iff (and_iff_left trivial)
  show Checks (idx bs (6 + k + A bs (5 + k)) >>= _) _ _
  rw [hl, idx_lt (by omega)]
  exact .ok _

/-- content bytes of r, as located by the declared length -/
def rB (bs : Bytes) : Bytes := (bs.drop 4).take (A bs 3)
/-- content bytes of s, as located by the two declared lengths -/
def sB (bs : Bytes) : Bytes := (bs.drop (6 + A bs 3)).take (A bs (5 + A bs 3))

/-- everything `DecodeSignature` tests, as one predicate on the bytes -/
def Valid (bs : Bytes) : Prop := HeadOK bs ∧ IntOK (rB bs) ∧ SOK bs (A bs 3)

/-- what `DecodeSignature` returns on success -/
def fields (bs : Bytes) : Sig := ⟨beNat (rB bs), beNat (sB bs), A bs (bs.length - 1)⟩

theorem decode_checks (bs : Bytes) : Checks (decode bs) (Valid bs) (fields bs) := by
  unfold decode
  refine (decHead_checks bs).bind fun ⟨_, _, _, _, _, hl, h0⟩ => ?_
  refine (decR_checks bs _ (Nat.pos_of_ne_zero h0) (by omega)).bind fun _ => ?_
  exact ((decS_checks bs _ hl).bind fun _ => .ok (fields bs)).iff (and_iff_left trivial)

theorem IntOK_sub {bs : Bytes} {lo k : Nat} (h : lo + k ≤ bs.length) (hk : 0 < k) :
    IntOK ((bs.drop lo).take k) ↔
      (A bs lo < 128 ∧ (k > 1 ∧ A bs lo = 0 → ¬ A bs (lo + 1) < 128)) := by
  unfold IntOK
  rw [sub_length h, sub_A hk, Nat.add_zero, not_and, not_and, and_imp]
  refine and_congr_right fun _ => forall_congr' fun h1 => ?_
  rw [sub_A h1]

theorem bip66_iff_valid (bs : Bytes) : bip66 bs = true ↔ Valid bs := by
  unfold bip66 bip66With
  simp only [Bool.and_eq_true, Bool.not_eq_true', decide_eq_false_iff_not, bne_eq_false_iff_eq, beq_iff_eq,
    bne_iff_ne, decide_eq_true_eq, Bool.not_eq_eq_eq_not, Bool.not_true, Bool.and_eq_false_imp,
    beq_eq_false_iff_ne, Bool.not_false, and_assoc, ne_eq]
  rw [show sigAt 0 = A from rfl, show A bs 3 + 4 = 4 + A bs 3 by omega, show A bs 3 + 6 = 6 + A bs 3 by omega,
    show A bs 3 + 7 = 6 + A bs 3 + 1 by omega,
    (Proofs.and128 _ (A_lt bs 4)).1, (Proofs.and128 _ (A_lt bs 5)).1, (Proofs.and128 _ (A_lt bs (6 + A bs 3))).1,
    (Proofs.and128 _ (A_lt bs (6 + A bs 3 + 1))).1]
  unfold Valid HeadOK SOK rB
  -- left: the BIP's fourteen `return false` tests in source order; the decoder tests the fifth
  -- (`5 + lenR < size`) in `decHead` and the sixth (the sum) in `decS`, all others in the same order
  constructor
  · rintro ⟨h1, h2, h3, h4, h5, h6, h7, h8, h9, h10, h11, h12, h13, h14⟩
    have h5 := Nat.not_le.mp h5
    refine ⟨⟨Nat.not_lt.mp h1, Nat.not_lt.mp h2, h3, h4, h7, h5, h8⟩, ?_, h11, h6, h12, ?_⟩
    · exact (IntOK_sub (by omega) (Nat.pos_of_ne_zero h8)).mpr ⟨h9, h10⟩
    · exact (IntOK_sub (by omega) (Nat.pos_of_ne_zero h12)).mpr ⟨h13, h14⟩
  · rintro ⟨⟨h1, h2, h3, h4, h5, h6, h7⟩, hr, h8, h9, h10, hs⟩
    obtain ⟨r1, r2⟩ := (IntOK_sub (by omega) (Nat.pos_of_ne_zero h7)).mp hr
    obtain ⟨s1, s2⟩ := (IntOK_sub (by omega) (Nat.pos_of_ne_zero h10)).mp hs
    exact ⟨Nat.not_lt.mpr h1, Nat.not_lt.mpr h2, h3, h4, Nat.not_le.mpr h6, h9, h5, h7, r1, r2, h8, h10, s1, s2⟩

theorem sigAt_eq (d d' : UInt8) {bs : Bytes} {i : Nat} (h : i < bs.length) : sigAt d bs i = sigAt d' bs i := by
  unfold sigAt
  rw [List.getD_eq_getElem?_getD, List.getD_eq_getElem?_getD, List.getElem?_eq_getElem h]
  rfl

/-- The reference code never reads out of range: if the string passes with `d` for such reads, every
    index is below the length by the tests before it, so it passes with any other `d'`. -/
theorem bip66With_any_default (d d' : UInt8) (bs : Bytes) (h : bip66With d bs = true) : bip66With d' bs = true := by
  unfold bip66With at h ⊢
  simp only [Bool.and_eq_true, Bool.not_eq_true', decide_eq_false_iff_not, bne_eq_false_iff_eq, beq_iff_eq,
    bne_iff_ne, decide_eq_true_eq, Bool.not_eq_eq_eq_not, Bool.not_true, Bool.and_eq_false_imp,
    beq_eq_false_iff_ne, Bool.not_false, and_assoc, ne_eq] at h ⊢
  obtain ⟨h1, h2, h3, h4, h5, h6, h7, h8, h9, h10, h11, h12, h13, h14⟩ := h
  have e : ∀ {i}, i < bs.length → sigAt d' bs i = sigAt d bs i := sigAt_eq d' d
  have l9 : ∀ {i}, i < 9 → i < bs.length := fun hi => Nat.lt_of_lt_of_le hi (Nat.not_lt.mp h1)
  have l5 : 5 + sigAt d bs 3 < bs.length := Nat.not_le.mp h5
  rw [e (i := 0) (l9 (by decide)), e (i := 1) (l9 (by decide)), e (i := 2) (l9 (by decide)),
    e (i := 3) (l9 (by decide)), e (i := 4) (l9 (by decide)), e (i := 5) (l9 (by decide)), e l5,
    e (i := sigAt d bs 3 + 4) (by omega), e (i := sigAt d bs 3 + 6) (by omega)]
  refine ⟨h1, h2, h3, h4, h5, h6, h7, h8, h9, h10, h11, h12, h13, fun hh => ?_⟩
  rw [e (i := sigAt d bs 3 + 7) (by omega)]
  exact h14 hh

end BtcVerif.Model.DER
