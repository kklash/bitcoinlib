/-
  Compact sizes: `encVarint` by range, `decVarint` by first byte, and the round trip between them.
-/
import BtcVerif.Model.Varint

namespace BtcVerif.Model
open BtcVerif BtcVerif.Parser
open BtcVerif.Gen.Guards

theorem encVarint_eq (v : Nat) : encVarint v =
    if 4294967295 < v then 0xff :: leBytes 8 v else if 65535 < v then 0xfe :: leBytes 4 v
    else if 252 < v then 0xfd :: leBytes 2 v else [UInt8.ofNat v] := by
  simp only [encVarint, varint_VarInt_WriteTo_0, varint_VarInt_WriteTo_1, varint_VarInt_WriteTo_2,
    decide_eq_true_eq, gt_iff_lt]

theorem encVarint_u8 {v : Nat} (h : v ≤ 252) : encVarint v = [UInt8.ofNat v] := by
  rw [encVarint_eq, if_neg (by omega), if_neg (by omega), if_neg (by omega)]

theorem encVarint_u16 {v : Nat} (h : 253 ≤ v) (h' : v ≤ 65535) : encVarint v = 0xfd :: leBytes 2 v := by
  rw [encVarint_eq, if_neg (by omega), if_neg (by omega), if_pos (by omega)]

theorem encVarint_u32 {v : Nat} (h : 65536 ≤ v) (h' : v ≤ 4294967295) : encVarint v = 0xfe :: leBytes 4 v := by
  rw [encVarint_eq, if_neg (by omega), if_pos (by omega)]

theorem encVarint_u64 {v : Nat} (h : 4294967296 ≤ v) : encVarint v = 0xff :: leBytes 8 v := by
  rw [encVarint_eq, if_pos (by omega)]

theorem varint_range (v : Nat) :
    v ≤ 252 ∨ (253 ≤ v ∧ v ≤ 65535) ∨ (65536 ≤ v ∧ v ≤ 4294967295) ∨ 4294967296 ≤ v := by omega

theorem decVarint_cons (b : UInt8) (rest : Bytes) : decVarint (b :: rest) =
    if b.toNat = 255 then readLE 8 rest else if b.toNat = 254 then readLE 4 rest
    else if b.toNat = 253 then readLE 2 rest else .ok (b.toNat, rest) := by
  simp only [decVarint, readByte_cons, varint_FromReader_0, varint_FromReader_1, varint_FromReader_2,
    decide_eq_true_eq]

/-- `Size` and `WriteTo` test the same three thresholds. -/
theorem varintSize_eq_length (v : Nat) : varintSize v = (encVarint v).length := by
  simp only [varintSize, encVarint, apply_ite List.length, List.length_cons, List.length_nil, leBytes_length]
  rfl

theorem encVarint_length_le (v : Nat) : (encVarint v).length ≤ 9 := by
  rw [← varintSize_eq_length, varintSize]
  repeat' split
  all_goals omega

/-- A count of at least one never starts with the zero byte: legacy bytes after the version are never
    mistaken for the segwit marker. -/
theorem encVarint_head_ne_zero {n : Nat} (h : 1 ≤ n) (tl : Bytes) : (encVarint n ++ tl).head? ≠ some 0 := by
  rcases varint_range n with h8 | ⟨h16, h16'⟩ | ⟨h32, h32'⟩ | h64
  · rw [encVarint_u8 h8]
    intro hc
    have := congrArg UInt8.toNat (Option.some.inj hc)
    rw [UInt8.toNat_ofNat_of_lt' (show n < 256 by omega)] at this
    change n = 0 at this
    omega
  · rw [encVarint_u16 h16 h16']; simp
  · rw [encVarint_u32 h32 h32']; simp
  · rw [encVarint_u64 h64]; simp

theorem decVarint_encVarint (v : Nat) (rest : Bytes) (hv : v < 2 ^ 64) :
    decVarint (encVarint v ++ rest) = .ok (v, rest) := by
  rcases varint_range v with h8 | ⟨h16, h16'⟩ | ⟨h32, h32'⟩ | h64
  · rw [encVarint_u8 h8, List.singleton_append, decVarint_cons,
      UInt8.toNat_ofNat_of_lt' (show v < 256 by omega), if_neg (by omega), if_neg (by omega), if_neg (by omega)]
  · rw [encVarint_u16 h16 h16', List.cons_append, decVarint_cons, if_neg (by decide), if_neg (by decide),
      if_pos (by decide)]
    exact readLE_append 2 v rest (by omega)
  · rw [encVarint_u32 h32 h32', List.cons_append, decVarint_cons, if_neg (by decide), if_pos (by decide)]
    exact readLE_append 4 v rest (by omega)
  · rw [encVarint_u64 h64, List.cons_append, decVarint_cons, if_pos (by decide)]
    exact readLE_append 8 v rest hv

theorem decVarint_ne_panic (s : Bytes) : decVarint s ≠ .panic := by
  cases s with
  | nil => nofun
  | cons b rest =>
    rw [decVarint_cons]
    repeat' split
    · exact readLE_ne_panic _ _
    · exact readLE_ne_panic _ _
    · exact readLE_ne_panic _ _
    · nofun

theorem decVarint_ok {s rest : Bytes} {v : Nat} (h : decVarint s = .ok (v, rest)) :
    v < 2 ^ 64 ∧ ∃ pre, s = pre ++ rest ∧ 0 < pre.length ∧ pre.length ≤ 9 := by
  cases s with
  | nil => cases h
  | cons b tl =>
    have key : ∀ k, k ≤ 8 → readLE k tl = .ok (v, rest) →
        v < 2 ^ 64 ∧ ∃ pre, b :: tl = pre ++ rest ∧ 0 < pre.length ∧ pre.length ≤ 9 := by
      intro k hk hr
      obtain ⟨hs, hlt⟩ := readLE_ok hr
      exact ⟨Nat.lt_of_lt_of_le hlt (Nat.pow_le_pow_right (by decide) hk : 256 ^ k ≤ 256 ^ 8),
        b :: leBytes k v, by rw [hs]; rfl, by simp, by simp; omega⟩
    rw [decVarint_cons] at h
    split at h
    · exact key 8 (by decide) h
    · split at h
      · exact key 4 (by decide) h
      · split at h
        · exact key 2 (by decide) h
        · cases h
          exact ⟨Nat.lt_trans b.toNat_lt (by decide), [b], rfl, by simp, by simp⟩

end BtcVerif.Model
