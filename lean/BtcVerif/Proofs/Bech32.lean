/-
  The Bech32 checksum: `bech32Polymod` is XOR-linear, the six values `bech32CreateChecksum` appends
  verify and are the only ones that do, and an error pattern with one or two non-zero values has a
  non-zero syndrome (from which `Props/C08.lean` concludes that such substitutions are detected).
-/
import BtcVerif.Model.Bech32
import BtcVerif.Proofs.Digits

namespace BtcVerif.Proofs.Bech32
open BtcVerif BtcVerif.Model BtcVerif.Model.Bech32 BtcVerif.Gen BtcVerif.Proofs.Digits

/-- XOR of the generator words selected by the low five bits of `b` -/
def G (b : Nat) : Nat := genFold b constants_Bech32ChecksumGen 0 0

theorem genFold_xor (b : Nat) (gs : List Nat) : ∀ (i c : Nat),
    genFold b gs i c = c ^^^ genFold b gs i 0 := by
  induction gs with
  | nil => intro i c; simp [genFold]
  | cons g gs ih =>
    intro i c
    unfold genFold
    rw [ih (i + 1) (if (b >>> i) &&& 1 = 1 then c ^^^ g else c),
      ih (i + 1) (if (b >>> i) &&& 1 = 1 then 0 ^^^ g else 0)]
    split
    · simp [Nat.xor_assoc]
    · simp

theorem bit_cases (x : Nat) : x &&& 1 = 0 ∨ x &&& 1 = 1 := by
  have : x &&& 1 ≤ 1 := Nat.and_le_right
  omega

theorem genFold_cons (b g : Nat) (gs : List Nat) (i c : Nat) :
    genFold b (g :: gs) i c = genFold b gs (i + 1) (c ^^^ (if (b >>> i) &&& 1 ≠ 0 then g else 0)) := by
  rw [show genFold b (g :: gs) i c =
    genFold b gs (i + 1) (if (b >>> i) &&& 1 = 1 then c ^^^ g else c) from rfl]
  rcases bit_cases (b >>> i) with h | h <;> simp [h]

theorem sel_xor (x y g : Nat) : (if (x ^^^ y) &&& 1 ≠ 0 then g else 0) =
    (if x &&& 1 ≠ 0 then g else 0) ^^^ (if y &&& 1 ≠ 0 then g else 0) := by
  rw [Nat.and_xor_distrib_right]
  rcases bit_cases x with hx | hx <;> rcases bit_cases y with hy | hy <;> simp [hx, hy]

theorem genFold_linear (a b : Nat) (gs : List Nat) : ∀ (i : Nat),
    genFold (a ^^^ b) gs i 0 = genFold a gs i 0 ^^^ genFold b gs i 0 := by
  induction gs with
  | nil => intro i; simp [genFold]
  | cons g gs ih =>
    intro i
    rw [genFold_cons, genFold_cons, genFold_cons, genFold_xor (a ^^^ b), genFold_xor a, genFold_xor b,
      ih (i + 1), Nat.shiftRight_xor_distrib, sel_xor]
    ac_rfl

theorem G_linear (a b : Nat) : G (a ^^^ b) = G a ^^^ G b := genFold_linear a b _ 0

theorem G_zero : G 0 = 0 := by decide

theorem G_lt (b : Nat) : G b < 2 ^ 30 := by
  have key : ∀ (gs : List Nat) (i c : Nat), (∀ g ∈ gs, g < 2 ^ 30) → c < 2 ^ 30 →
      genFold b gs i c < 2 ^ 30 := by
    intro gs
    induction gs with
    | nil => intro i c _ hc; simpa [genFold] using hc
    | cons g gs ih =>
      intro i c hg hc
      unfold genFold
      apply ih
      · intro x hx; exact hg x (by simp [hx])
      · split
        · exact Nat.xor_lt_two_pow hc (hg g (by simp))
        · exact hc
  exact key _ 0 0 (by decide) (by decide)

theorem G_mod32_eq_zero : ∀ t, t < 32 → G t % 32 = 0 → t = 0 := by decide

theorem step_eq (chk v : Nat) :
    polymodStep chk v = ((chk &&& 0x1ffffff) <<< 5) ^^^ v ^^^ G (chk >>> 25) := by
  unfold polymodStep G
  simp only
  rw [genFold_xor]

theorem step_linear (a b v w : Nat) :
    polymodStep (a ^^^ b) (v ^^^ w) = polymodStep a v ^^^ polymodStep b w := by
  simp only [step_eq, Nat.shiftRight_xor_distrib, G_linear, Nat.and_xor_distrib_right,
    Nat.shiftLeft_xor_distrib]
  ac_rfl

theorem step_zero_left (v : Nat) : polymodStep 0 v = v := by
  rw [step_eq]; simp [G_zero]

def L (s : Nat) : Nat := polymodStep s 0

theorem step_eq_L (s v : Nat) : polymodStep s v = L s ^^^ v := by
  have := step_linear s 0 0 v
  simp only [Nat.xor_zero, Nat.zero_xor] at this
  rw [this, step_zero_left]; rfl

theorem L_zero : L 0 = 0 := by simp [L, step_zero_left]

theorem step_lt (s v : Nat) (hv : v < 2 ^ 30) : polymodStep s v < 2 ^ 30 := by
  rw [step_eq]
  apply Nat.xor_lt_two_pow
  · apply Nat.xor_lt_two_pow _ hv
    have h1 : s &&& 0x1ffffff < 2 ^ 25 := Nat.and_lt_two_pow s (by decide)
    rw [Nat.shiftLeft_eq]
    omega
  · exact G_lt _

theorem L_lt (s : Nat) : L s < 2 ^ 30 := step_lt s 0 (by decide)

theorem step_of_lt (s v : Nat) (hs : s < 2 ^ 25) : polymodStep s v = (s <<< 5) ^^^ v := by
  rw [step_eq, Nat.shiftRight_eq_div_pow, Nat.div_eq_of_lt hs, G_zero, Nat.xor_zero,
    show (0x1ffffff : Nat) = 2 ^ 25 - 1 from rfl, Nat.and_two_pow_sub_one_of_lt_two_pow hs]

/-- `L` has trivial kernel on 30-bit states: the low five bits of `L s` are those of `G (s >>> 25)`,
    which determine the top five bits of `s`, and the rest of `L s` is the rest of `s` shifted -/
theorem L_eq_zero (s : Nat) (hs : s < 2 ^ 30) (h : L s = 0) : s = 0 := by
  have hmod : L s % 2 ^ 5 = 0 := by rw [h]
  rw [L, step_eq, Nat.xor_zero, Nat.xor_mod_two_pow, Nat.shiftLeft_eq, Nat.mul_mod_left,
    Nat.zero_xor] at hmod
  have ht0 := G_mod32_eq_zero (s >>> 25)
    (by rw [Nat.shiftRight_eq_div_pow]; exact Nat.div_lt_of_lt_mul hs) hmod
  rw [Nat.shiftRight_eq_div_pow, Nat.div_eq_zero_iff] at ht0
  rw [L, step_of_lt s 0 (by omega), Nat.xor_zero] at h
  exact Nat.shiftLeft_eq_zero_iff.mp h

def pm (c : Nat) (vs : List Nat) : Nat := vs.foldl polymodStep c

theorem polymod_eq_pm (vs : List Nat) : polymod vs = pm 1 vs := rfl

theorem pm_append (c : Nat) (xs ys : List Nat) : pm c (xs ++ ys) = pm (pm c xs) ys := by
  simp [pm, List.foldl_append]

theorem pm_linear : ∀ (xs ys : List Nat) (c d : Nat), xs.length = ys.length →
    pm (c ^^^ d) (List.zipWith (· ^^^ ·) xs ys) = pm c xs ^^^ pm d ys := by
  intro xs
  induction xs with
  | nil =>
    intro ys c d h
    cases ys with
    | nil => simp [pm]
    | cons _ _ => simp at h
  | cons x xs ih =>
    intro ys c d h
    cases ys with
    | nil => simp at h
    | cons y ys =>
      simp only [List.zipWith_cons_cons, pm, List.foldl_cons]
      rw [step_linear]
      exact ih ys _ _ (by simpa using h)

theorem pm_lt (c : Nat) (hc : c < 2 ^ 30) (vs : List Nat) (hv : ∀ v ∈ vs, v < 2 ^ 30) :
    pm c vs < 2 ^ 30 := by
  induction vs generalizing c with
  | nil => simpa [pm] using hc
  | cons v vs ih =>
    simp only [pm, List.foldl_cons]
    exact ih _ (step_lt c v (hv v (by simp))) (fun x hx => hv x (by simp [hx]))

theorem shiftLeft_xor_of_lt (s c k : Nat) (hc : c < 2 ^ k) : s <<< k ^^^ c = s * 2 ^ k + c := by
  rw [← shl_or _ _ _ hc]
  apply Nat.eq_of_testBit_eq
  intro i
  simp only [Nat.testBit_xor, Nat.testBit_or, Nat.testBit_shiftLeft]
  by_cases hi : k ≤ i
  · simp [Nat.testBit_lt_two_pow (Nat.lt_of_lt_of_le hc (Nat.pow_le_pow_right (by decide) hi))]
  · simp [hi]

theorem step_small (s c : Nat) (hs : s < 2 ^ 25) (hc : c < 32) : polymodStep s c = s * 32 + c := by
  rw [step_of_lt s c hs, shiftLeft_xor_of_lt s c 5 hc]

/-- a run of values below 32 is their base-32 number as long as nothing is reduced: from a state
    below `32 ^ k`, for at most `6 - k` values -/
theorem pm_small (cs : List Nat) (hc : ∀ c ∈ cs, c < 32) : ∀ (k s : Nat), s < 32 ^ k → k + cs.length ≤ 6 →
    pm s cs = cs.foldl (fun a c => a * 32 + c) s := by
  induction cs with
  | nil => intro k s _ _; rfl
  | cons c cs ih =>
    intro k s hs hk
    obtain ⟨hc0, hcs⟩ := List.forall_mem_cons.mp hc
    rw [List.length_cons] at hk
    have hpow : 32 ^ k ≤ 32 ^ 5 := Nat.pow_le_pow_right (by decide) (by omega)
    have hk1 : 32 ^ (k + 1) = 32 ^ k * 32 := rfl
    rw [pm, List.foldl_cons, List.foldl_cons, step_small s c (by omega) hc0]
    exact ih hcs (k + 1) _ (by omega) (by omega)

theorem pm_zero_small (cs : List Nat) (hc : ∀ c ∈ cs, c < 32) (hl : cs.length ≤ 6) : pm 0 cs = ofDigits 32 cs :=
  pm_small cs hc 0 0 (by decide) (by omega)

def digits6 (X : Nat) : List Nat :=
  [X / 2 ^ 25 % 32, X / 2 ^ 20 % 32, X / 2 ^ 15 % 32, X / 2 ^ 10 % 32, X / 2 ^ 5 % 32, X % 32]

theorem digits6_lt (X : Nat) : ∀ c ∈ digits6 X, c < 32 := by
  simp only [digits6, List.forall_mem_cons]
  exact ⟨Nat.mod_lt _ (by decide), Nat.mod_lt _ (by decide), Nat.mod_lt _ (by decide),
    Nat.mod_lt _ (by decide), Nat.mod_lt _ (by decide), Nat.mod_lt _ (by decide), nofun⟩

theorem div_mul_add_digit (X m n : Nat) (h : n = m * 32) : X / n * 32 + X / m % 32 = X / m := by
  rw [h, ← Nat.div_div_eq_div_mul, Nat.div_add_mod']

theorem ofDigits_digits6 (X : Nat) (hX : X < 2 ^ 30) : ofDigits 32 (digits6 X) = X := by
  simp only [digits6, ofDigits, List.foldl_cons, List.foldl_nil, Nat.zero_mul, Nat.zero_add]
  rw [Nat.mod_eq_of_lt (show X / 2 ^ 25 < 32 from Nat.div_lt_of_lt_mul hX), div_mul_add_digit X (2 ^ 20) (2 ^ 25) rfl,
    div_mul_add_digit X (2 ^ 15) (2 ^ 20) rfl, div_mul_add_digit X (2 ^ 10) (2 ^ 15) rfl,
    div_mul_add_digit X (2 ^ 5) (2 ^ 10) rfl, Nat.div_add_mod']

/-- the state before the final XOR with 1, from which `bech32CreateChecksum` reads its six values -/
def tailState (hrp : Bytes) (values : List Nat) : Nat := pm 1 (hrpExpand hrp ++ values ++ [0, 0, 0, 0, 0, 0])

theorem and_31 (x : Nat) : x &&& 31 = x % 32 := Nat.and_two_pow_sub_one_eq_mod x 5

theorem createChecksum_eq (hrp : Bytes) (values : List Nat) :
    createChecksum hrp values = digits6 (tailState hrp values ^^^ 1) := by
  simp only [createChecksum, digits6, tailState, polymod_eq_pm, List.range, List.range.loop, List.map_cons,
    List.map_nil, Nat.shiftRight_eq_div_pow, and_31, Nat.reduceSub, Nat.reduceMul, Nat.pow_zero, Nat.div_one]

theorem createChecksum_lt (hrp : Bytes) (values : List Nat) : ∀ c ∈ createChecksum hrp values, c < 32 :=
  createChecksum_eq hrp values ▸ digits6_lt _

theorem createChecksum_length (hrp : Bytes) (values : List Nat) : (createChecksum hrp values).length = 6 := by
  rw [createChecksum_eq]; rfl

theorem hrpExpand_lt (hrp : Bytes) : ∀ v ∈ hrpExpand hrp, v < 2 ^ 30 := by
  intro v hv
  unfold hrpExpand at hv
  simp only [List.mem_append, List.mem_map, List.mem_cons, List.mem_nil_iff, or_false] at hv
  rcases hv with (⟨c, _, rfl⟩ | rfl) | ⟨c, _, rfl⟩
  · have := c.toNat_lt
    rw [Nat.shiftRight_eq_div_pow]
    have : c.toNat / 2 ^ 5 ≤ c.toNat := Nat.div_le_self _ _
    omega
  · decide
  · have : c.toNat &&& 31 ≤ 31 := Nat.and_le_right
    omega

/-- splitting a run over `base ++ tail` by linearity: the tail contributes `pm 0 tail` -/
theorem pm_tail (P : Nat) (cs : List Nat) :
    pm P cs = pm P (List.replicate cs.length 0) ^^^ pm 0 cs := by
  have hz : List.zipWith (· ^^^ ·) (List.replicate cs.length 0) cs = cs := by
    induction cs with
    | nil => rfl
    | cons c cs ih => simp [List.replicate_succ, ih]
  have := pm_linear (List.replicate cs.length 0) cs P 0 (by simp)
  rw [hz, Nat.xor_zero] at this
  exact this

theorem xor_cancel {a b : Nat} (h : a ^^^ b = 0) : a = b := by
  apply Nat.eq_of_testBit_eq
  intro i
  have := congrArg (fun x => x.testBit i) h
  simp only [Nat.testBit_xor, Nat.zero_testBit] at this
  cases ha : a.testBit i <;> cases hb : b.testBit i <;> simp [ha, hb] at this ⊢

theorem verify_iff (hrp : Bytes) (vals : List Nat) :
    verifyChecksum hrp vals = true ↔ pm 1 (hrpExpand hrp ++ vals) = 1 := by
  unfold verifyChecksum Gen.Guards.bech32_bech32VerifyChecksum_0
  rw [decide_eq_true_iff]
  show ((pm 1 (hrpExpand hrp ++ vals) : Nat) : Int) = 1 ↔ pm 1 (hrpExpand hrp ++ vals) = 1
  omega

theorem tailState_lt (hrp : Bytes) (values : List Nat) (hv : ∀ v ∈ values, v < 32) :
    tailState hrp values ^^^ 1 < 2 ^ 30 := by
  refine Nat.xor_lt_two_pow (pm_lt 1 (by decide) _ ?_) (by decide)
  refine List.forall_mem_append.mpr ⟨List.forall_mem_append.mpr ⟨hrpExpand_lt hrp, ?_⟩, by decide⟩
  exact fun v h => Nat.lt_trans (hv v h) (by decide)

theorem verify_append_iff (hrp : Bytes) (values cs : List Nat) (hcl : cs.length = 6) :
    verifyChecksum hrp (values ++ cs) = true ↔ pm 0 cs = tailState hrp values ^^^ 1 := by
  rw [verify_iff, ← List.append_assoc, pm_append, pm_tail, hcl, ← pm_append]
  show tailState hrp values ^^^ pm 0 cs = 1 ↔ _
  constructor
  · intro h; rw [← h, ← Nat.xor_assoc, Nat.xor_self, Nat.zero_xor]
  · intro h; rw [h, ← Nat.xor_assoc, Nat.xor_self, Nat.zero_xor]

theorem pm_createChecksum (hrp : Bytes) (values : List Nat) (hv : ∀ v ∈ values, v < 32) :
    pm 0 (createChecksum hrp values) = tailState hrp values ^^^ 1 := by
  rw [createChecksum_eq, pm_zero_small _ (digits6_lt _) (Nat.le_refl 6),
    ofDigits_digits6 _ (tailState_lt hrp values hv)]

theorem verify_create (hrp : Bytes) (values : List Nat) (hv : ∀ v ∈ values, v < 32) :
    verifyChecksum hrp (values ++ createChecksum hrp values) = true :=
  (verify_append_iff hrp values _ (createChecksum_length hrp values)).mpr (pm_createChecksum hrp values hv)

theorem verify_unique (hrp : Bytes) (values cs : List Nat) (hv : ∀ v ∈ values, v < 32)
    (hcl : cs.length = 6) (hc : ∀ c ∈ cs, c < 32)
    (h : verifyChecksum hrp (values ++ cs) = true) : cs = createChecksum hrp values := by
  have hpm := ((verify_append_iff hrp values cs hcl).mp h).trans (pm_createChecksum hrp values hv).symm
  have hl := hcl.trans (createChecksum_length hrp values).symm
  rw [pm_zero_small cs hc (by omega), pm_zero_small _ (createChecksum_lt hrp values) (by omega)] at hpm
  exact ofDigits_inj 32 _ _ hl hc (createChecksum_lt hrp values) hpm

theorem pm_zeros_succ (s k : Nat) : pm s (List.replicate (k + 1) 0) = L (pm s (List.replicate k 0)) := by
  rw [List.replicate_succ', pm_append]; rfl

theorem pm_zeros_lt (k s : Nat) (hs : s < 2 ^ 30) : pm s (List.replicate k 0) < 2 ^ 30 :=
  pm_lt s hs _ fun _ hv => List.eq_of_mem_replicate hv ▸ by decide

theorem pm_zeros_ne_zero (k s : Nat) (hs : s < 2 ^ 30) (h0 : s ≠ 0) : pm s (List.replicate k 0) ≠ 0 := by
  induction k generalizing s with
  | zero => exact h0
  | succ k ih => exact ih (L s) (L_lt s) fun h => h0 (L_eq_zero s hs h)

def farFrom : Nat → Nat → Bool
  | 0, _ => true
  | fuel + 1, s => decide (32 ≤ polymodStep s 0) && farFrom fuel (polymodStep s 0)

/-- the number of zero-input rounds the kernel-checked table covers: after a first error value, up to
    88 further positions, i.e. data parts of up to 89 values (a string of `MaxLength` = 90 characters
    has at most 88: one HRP character and the separator) -/
def maxDist : Nat := 88

def tableOK (n : Nat) : Bool := (List.range 31).all (fun a => farFrom n (a + 1))

/-- the kernel evaluates 31 × 88 rounds of the polymod over the regenerated generator -/
theorem table_ok : tableOK maxDist = true := by decide +kernel

theorem farFrom_spec : ∀ (fuel s d : Nat), farFrom fuel s = true → 1 ≤ d → d ≤ fuel →
    32 ≤ pm s (List.replicate d 0) := by
  intro fuel
  induction fuel with
  | zero => intro s d _ h1 h2; omega
  | succ fuel ih =>
    intro s d h h1 h2
    simp only [farFrom, Bool.and_eq_true, decide_eq_true_eq] at h
    cases d with
    | zero => omega
    | succ d =>
      by_cases hd : d = 0
      · subst hd; exact h.1
      · exact ih (L s) d h.2 (by omega) (by omega)

/-- what the table says: `d` zero inputs after an error value `a` leave a state that no second error
    value can cancel -/
theorem far (a d : Nat) (ha1 : 1 ≤ a) (ha : a < 32) (hd1 : 1 ≤ d) (hd : d ≤ maxDist) :
    32 ≤ pm a (List.replicate d 0) := by
  have h := List.all_eq_true.mp table_ok (a - 1) (by simp; omega)
  rw [show a - 1 + 1 = a by omega] at h
  exact farFrom_spec _ _ d h hd1 hd

def nz (e : List Nat) : Nat := e.countP (· ≠ 0)

theorem nz_cons_zero (e : List Nat) : nz (0 :: e) = nz e := by
  unfold nz; rw [List.countP_cons]; simp

theorem nz_cons_ne {x : Nat} (hx : x ≠ 0) (e : List Nat) : nz (x :: e) = nz e + 1 := by
  unfold nz; rw [List.countP_cons]; simp [hx]

theorem pm_zeros (e : List Nat) (h : nz e = 0) : ∀ s, pm s e = pm s (List.replicate e.length 0) := by
  induction e with
  | nil => intro s; rfl
  | cons x e ih =>
    intro s
    by_cases hx : x = 0
    · subst hx
      exact ih (nz_cons_zero e ▸ h) _
    · rw [nz_cons_ne hx] at h; omega

theorem xor_ge_32 (y x : Nat) (hy : 32 ≤ y) (hx : x < 32) : y ^^^ x ≠ 0 := by
  intro h
  have := xor_cancel h
  omega

/-- after one error value `a` followed by `dist` zeros, at most one more error cannot bring the
    state back to zero: the state is outside 0..31 when the second error is XORed in (`far`), and a
    non-zero state stays non-zero under zeros -/
theorem one_more (e : List Nat) : ∀ (a dist : Nat), 1 ≤ a → a < 32 → (∀ x ∈ e, x < 32) →
    nz e ≤ 1 → dist + e.length ≤ maxDist → pm a (List.replicate dist 0 ++ e) ≠ 0 := by
  induction e with
  | nil =>
    intro a dist ha1 ha _ _ _
    rw [List.append_nil]
    exact pm_zeros_ne_zero dist a (by omega) (by omega)
  | cons x e ih =>
    intro a dist ha1 ha hlt hnz hlen
    obtain ⟨hxlt, hlt'⟩ := List.forall_mem_cons.mp hlt
    rw [List.length_cons] at hlen
    by_cases hx : x = 0
    · subst hx
      rw [nz_cons_zero] at hnz
      rw [← List.singleton_append, ← List.append_assoc, ← List.replicate_succ']
      exact ih a (dist + 1) ha1 ha hlt' hnz (by omega)
    · rw [nz_cons_ne hx] at hnz
      rw [pm_append]
      show pm (polymodStep (pm a (List.replicate dist 0)) x) e ≠ 0
      rw [step_eq_L, ← pm_zeros_succ, pm_zeros e (by omega)]
      exact pm_zeros_ne_zero _ _ (Nat.xor_lt_two_pow (pm_zeros_lt _ _ (by omega)) (by omega))
        (xor_ge_32 _ _ (far a (dist + 1) ha1 ha (by omega) (by omega)) hxlt)

theorem syndrome_ne_zero (e : List Nat) : (∀ x ∈ e, x < 32) → 1 ≤ nz e → nz e ≤ 2 →
    e.length ≤ maxDist + 1 → pm 0 e ≠ 0 := by
  induction e with
  | nil => intro _ h; simp [nz] at h
  | cons x e ih =>
    intro hlt h1 h2 hlen
    simp only [pm, List.foldl_cons]
    rw [step_zero_left]
    simp only [List.length_cons] at hlen
    have hxlt : x < 32 := hlt x (by simp)
    have hlt' : ∀ y ∈ e, y < 32 := fun y hy => hlt y (by simp [hy])
    by_cases hx : x = 0
    · subst hx
      rw [nz_cons_zero] at h1 h2
      exact ih hlt' h1 h2 (by omega)
    · rw [nz_cons_ne hx] at h2
      exact one_more e x 0 (by omega) hxlt hlt' (by omega) (by omega)

def hamming : List Nat → List Nat → Nat
  | x :: xs, y :: ys => (if x = y then 0 else 1) + hamming xs ys
  | _, _ => 0

theorem nz_zipWith_xor : ∀ (xs ys : List Nat), xs.length = ys.length →
    nz (List.zipWith (· ^^^ ·) xs ys) = hamming xs ys := by
  intro xs
  induction xs with
  | nil => intro ys h; cases ys <;> simp [nz, hamming]
  | cons x xs ih =>
    intro ys h
    cases ys with
    | nil => simp at h
    | cons y ys =>
      have := ih ys (by simpa using h)
      unfold nz at this ⊢
      simp only [List.zipWith_cons_cons, List.countP_cons, hamming, this]
      by_cases hxy : x = y
      · subst hxy; simp
      · have : x ^^^ y ≠ 0 := fun h0 => hxy (xor_cancel h0)
        simp [hxy, this]; omega

theorem zipWith_xor_lt : ∀ (xs ys : List Nat), (∀ x ∈ xs, x < 32) → (∀ y ∈ ys, y < 32) →
    ∀ z ∈ List.zipWith (· ^^^ ·) xs ys, z < 32 := by
  intro xs
  induction xs with
  | nil => intro ys _ _ z hz; simp at hz
  | cons x xs ih =>
    intro ys hx hy z hz
    cases ys with
    | nil => simp at hz
    | cons y ys =>
      simp only [List.zipWith_cons_cons, List.mem_cons] at hz
      rcases hz with hz | hz
      · subst hz
        exact Nat.xor_lt_two_pow (n := 5) (hx x (by simp)) (hy y (by simp))
      · exact ih ys (fun a ha => hx a (by simp [ha])) (fun a ha => hy a (by simp [ha])) z hz

end BtcVerif.Proofs.Bech32
