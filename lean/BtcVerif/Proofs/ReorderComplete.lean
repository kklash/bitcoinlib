import BtcVerif.Proofs.Reorder

/-! Completeness of the ordering buffer: the state it is in after the blocks of an honest chain have arrived
    in some order, whatever the order. -/
namespace BtcVerif.Model.Reorder
open BtcVerif.Gen.Guards

/-- the block of height `fromHeight + k` of an honest chain whose first block has hash 1 (hash of height `k` := `k + 1`;
any injective numbering would do) -/
def honest (k : Nat) : Blk := ⟨k + 1, k⟩

/-- the buffer holds honest blocks only: those of the heights in `p` (what has arrived) above `j` (what has been handed out) -/
structure HonestBuf (buf : List Blk) (p : List Nat) (j : Nat) : Prop where
  all : ∀ x ∈ buf, ∃ k, x = honest k
  mem : ∀ k, honest k ∈ buf ↔ (k ∈ p ∧ j < k)

theorem honest_inj {a b : Nat} (h : honest a = honest b) : a = b := congrArg Blk.prev h

theorem HonestBuf.lookup_eq {buf : List Blk} {p : List Nat} {j : Nat} (hb : HonestBuf buf p j) (k : Nat) :
    lookup k buf = if k ∈ p ∧ j < k then some (honest k) else none := by
  cases hf : lookup k buf with
  | none =>
    have hn : honest k ∉ buf := fun hm => by simpa [honest] using List.find?_eq_none.mp hf _ hm
    rw [if_neg (mt (hb.mem k).mpr hn)]
  | some x =>
    obtain ⟨k', rfl⟩ := hb.all x (lookup_mem hf)
    obtain rfl : k' = k := lookup_prev hf
    rw [if_pos ((hb.mem k').mp (lookup_mem hf))]

theorem delete_honest {buf : List Blk} {p : List Nat} {j : Nat} (hb : HonestBuf buf p j) :
    HonestBuf (delete (j + 1) buf) p (j + 1) := by
  refine ⟨fun x hx => hb.all x (mem_delete.mp hx).1, fun k => ?_⟩
  rw [mem_delete, hb.mem k]
  show (k ∈ p ∧ j < k) ∧ k ≠ j + 1 ↔ k ∈ p ∧ j + 1 < k
  exact ⟨fun ⟨⟨hk, _⟩, _⟩ => ⟨hk, by omega⟩, fun ⟨hk, _⟩ => ⟨⟨hk, by omega⟩, by omega⟩⟩

theorem insert_honest {buf : List Blk} {p : List Nat} {j h : Nat} (hb : HonestBuf buf p j) (hp : h ∉ p)
    (hj : j < h) : HonestBuf (insert (honest h) buf) (h :: p) j := by
  constructor
  · intro x hx
    rcases mem_insert.mp hx with rfl | hx
    · exact ⟨h, rfl⟩
    · exact hb.all x hx.1
  · intro k
    rw [mem_insert, hb.mem k, List.mem_cons]
    show honest k = honest h ∨ (k ∈ p ∧ j < k) ∧ k ≠ h ↔ (k = h ∨ k ∈ p) ∧ j < k
    constructor
    · rintro (he | ⟨⟨hk, hjk⟩, _⟩)
      · exact ⟨.inl (honest_inj he), honest_inj he ▸ hj⟩
      · exact ⟨.inr hk, hjk⟩
    · rintro ⟨rfl | hk, hjk⟩
      · exact .inl rfl
      · exact .inr ⟨⟨hk, hjk⟩, fun e => hp (e ▸ hk)⟩

/-- the state after the blocks of heights `1..j` (relative) have been handed out, `p` being what has arrived -/
structure Good (f : Nat) (p : List Nat) (j : Nat) (s : St) : Prop where
  latest : s.latest = j + 1
  cur : s.cur = f + j
  out : s.out = (List.range' 1 j).map honest
  res : s.res = .running
  buf : HonestBuf s.buf p j
  pre : ∀ k, 1 ≤ k → k ≤ j → k ∈ p

theorem Good.lookup_eq {f : Nat} {p : List Nat} {j : Nat} {s : St} (hg : Good f p j s) :
    lookup s.latest s.buf = if (j + 1) ∈ p then some (honest (j + 1)) else none := by
  rw [hg.latest, hg.buf.lookup_eq]
  simp

theorem release_good {f : Nat} {p : List Nat} : ∀ (fuel : Nat) (s : St) (j : Nat), Good f p j s →
    ∃ j', Good f p j' (release fuel s)
  | 0, _, j, hg => ⟨j, hg⟩
  | fuel + 1, s, j, hg => by
    have hlk := hg.lookup_eq
    by_cases h : (j + 1) ∈ p
    · rw [if_pos h] at hlk
      rw [release_some hlk]
      exact release_good fuel _ (j + 1)
        ⟨rfl, by simp only [hg.cur, Nat.add_assoc],
          by simp only [hg.out, List.range'_concat, Nat.one_mul, Nat.add_comm 1 j, List.map_append, List.map_cons,
            List.map_nil],
          hg.res, by simpa only [hg.latest] using delete_honest hg.buf,
          fun k h1 h2 => if hk : k = j + 1 then hk ▸ h else hg.pre k h1 (by omega)⟩
    · rw [if_neg h] at hlk
      rw [release_none hlk]
      exact ⟨j, hg⟩

theorem Good.drained {f : Nat} {p : List Nat} {j : Nat} {s : St} (hg : Good f p j s)
    (h : lookup s.latest s.buf = none) : (j + 1) ∉ p :=
  fun hmem => by rw [hg.lookup_eq, if_pos hmem] at h; cases h

theorem iter_arrival {f m : Nat} {p : List Nat} {j : Nat} {s : St} (hg : Good f p j s) {h : Nat}
    (hp : h ∉ p) (h1 : 1 ≤ h) (hm : h ≤ m) :
    ∃ j', Good f (h :: p) j' (iter (f + m) s (.blk (honest h))) ∧ (j' + 1) ∉ (h :: p) := by
  have hjh : j < h := Nat.lt_of_not_le fun hle => hp (hg.pre h h1 hle)
  rw [iter_blk hg.res (by rw [hg.cur]; omega)]
  obtain ⟨j', hg'⟩ := release_good ((insert (honest h) s.buf).length + 1) { s with buf := insert (honest h) s.buf } j
    ⟨hg.latest, hg.cur, hg.out, hg.res, insert_honest hg.buf hp hjh, fun k a b => List.mem_cons_of_mem _ (hg.pre k a b)⟩
  exact ⟨j', hg', hg'.drained (release_stops _ _ (Nat.lt_succ_self _))⟩

/-- `hs.reverse ++ p`: what has arrived after the blocks of the heights `hs`, latest first -/
theorem foldl_arrivals {f m : Nat} : ∀ (hs : List Nat) {p : List Nat} {j : Nat} {s : St}, Good f p j s →
    (j + 1) ∉ p → hs.Nodup → (∀ h ∈ hs, h ∉ p ∧ 1 ≤ h ∧ h ≤ m) →
    ∃ j', Good f (hs.reverse ++ p) j' ((hs.map (fun k => Ev.blk (honest k))).foldl (iter (f + m)) s) ∧
      (j' + 1) ∉ (hs.reverse ++ p)
  | [], _, j, _, hg, hmax, _, _ => ⟨j, hg, hmax⟩
  | h :: hs, p, j, s, hg, _, hnd, hall => by
    obtain ⟨hh, h1, hm⟩ := hall h List.mem_cons_self
    obtain ⟨j1, hg1, hnot1⟩ := iter_arrival (m := m) hg hh h1 hm
    obtain ⟨hnh, hnd'⟩ := List.nodup_cons.mp hnd
    have hall' : ∀ x ∈ hs, x ∉ (h :: p) ∧ 1 ≤ x ∧ x ≤ m := by
      intro x hx
      obtain ⟨hxp, hx1⟩ := hall x (List.mem_cons_of_mem _ hx)
      refine ⟨fun hmem => ?_, hx1⟩
      rcases List.mem_cons.mp hmem with rfl | hmem
      · exact hnh hx
      · exact hxp hmem
    rw [List.reverse_cons, List.append_assoc, List.singleton_append, List.map_cons, List.foldl_cons]
    exact foldl_arrivals hs hg1 hnot1 hnd' hall'

theorem Good.all_arrived {f m : Nat} {p : List Nat} {j : Nat} {s : St} (hg : Good f p j s)
    (hmem : ∀ h, h ∈ p ↔ 1 ≤ h ∧ h ≤ m) (hmax : (j + 1) ∉ p) : j = m := by
  have h1 : j = 0 ∨ j ≤ m := (Nat.eq_zero_or_pos j).imp id fun h0 => ((hmem j).mp (hg.pre j h0 (Nat.le_refl _))).2
  have h2 : ¬ (j + 1 ≤ m) := fun hle => hmax ((hmem (j + 1)).mpr ⟨by omega, hle⟩)
  omega

/-- after the blocks of an honest node have arrived, in any order, the whole range has been handed out in chain
order and the loop is still running (its condition is tested next) -/
theorem arrivals_good (f : Nat) {m : Nat} {hs : List Nat} (hperm : hs.Perm (List.range' 1 m)) :
    Good f hs.reverse m ((hs.map fun k => Ev.blk (honest k)).foldl (iter (f + m)) (start f 1)) := by
  have hmem : ∀ h, h ∈ hs.reverse ↔ 1 ≤ h ∧ h ≤ m := by
    intro h
    rw [List.mem_reverse, hperm.mem_iff, List.mem_range'_1]
    omega
  obtain ⟨j, hg, hmax⟩ := foldl_arrivals (f := f) (m := m) hs (p := []) (j := 0) (s := start f 1)
    ⟨rfl, rfl, rfl, rfl, ⟨fun x hx => (nomatch hx), fun k => by simp [start]⟩, fun k h1 h2 => by omega⟩
    (fun h => nomatch h) (hperm.nodup_iff.mpr List.nodup_range')
    (fun h hh => ⟨List.not_mem_nil, (hmem h).mp (List.mem_reverse.mpr hh)⟩)
  rw [List.append_nil] at hg hmax
  exact hg.all_arrived hmem hmax ▸ hg

end BtcVerif.Model.Reorder
