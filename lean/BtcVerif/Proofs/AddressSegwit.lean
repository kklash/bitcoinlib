/-
  Addresses (C09), segwit forms: they rest on the Bech32 round trips of C08 and on the fact that a
  string as long as a segwit address cannot be a Base58 address.
-/
import BtcVerif.Proofs.Address
import BtcVerif.Proofs.Bech32Ref

namespace BtcVerif.Proofs.Address
open BtcVerif BtcVerif.Model BtcVerif.Model.Address BtcVerif.Gen BtcVerif.Gen.Guards

/-- a string of at least 41 characters is not a Base58 address (its payload would have at least
    23 bytes), whatever the checksum function -/
theorem decodeBase58_long (hs : Hashes) (s : Bytes) (hl : 41 ≤ s.length) :
    decodeBase58Address hs s = .err := by
  rw [decodeBase58_eq]
  cases hb : Base58.decode s with
  | err => rw [Base58Check.decode, hb]; rfl
  | panic => exact absurd hb (Proofs.Base58.decode_ne_panic s)
  | ok dec =>
    have hlen := Proofs.Base58.decode_length_ge s dec hb hl
    rw [Proofs.Base58.Check.decode_of_base58 hs.cksum s dec hb]
    split
    · rfl
    · split
      · exact splitPayload_err (by simp; omega) (by simp; omega)
      · rfl

/-- a 20- or 32-byte program and an HRP of at most 30 characters fit into the 90 characters of a
    Bech32 string -/
theorem segwit_fits (hrp h : Bytes) (hl : h.length = 20 ∨ h.length = 32) (hs : hrp.length ≤ 30) :
    h ≠ [] ∧ hrp.length + 1 + (1 + (Bech32.bytesToIndices h).length) + 6 ≤ 90 := by
  have hne : h ≠ [] := by intro h0; subst h0; simp at hl
  have := Proofs.Bech32.bytesToIndices_length h hne
  exact ⟨hne, by rcases hl with hl | hl <;> omega⟩

/-- the shortest segwit address, `h` `1` `q` ‖ 32 characters ‖ 6 of checksum, already has the 41
    characters from which `decodeBase58_long` refuses -/
theorem encode_length_ge (hrp : Bytes) (version : Nat) (data s : Bytes) (hd : 20 ≤ data.length)
    (hv : version < 32) (hne : hrp ≠ [])
    (hlen : hrp.length + 1 + (1 + (Bech32.bytesToIndices data).length) + 6 ≤ 90)
    (h : Bech32.encode hrp version data = .ok s) : 41 ≤ s.length := by
  have hdne : data ≠ [] := by intro h0; subst h0; simp at hd
  rw [Proofs.Bech32.encode_normal hrp version data hdne hv hlen] at h
  obtain rfl := Outcome.ok.inj h
  have := Proofs.Bech32.bytesToIndices_length data hdne
  have : 1 ≤ hrp.length := List.length_pos_iff.mpr hne
  simp only [List.length_append, List.length_cons, List.length_nil, List.length_map,
    Proofs.Bech32.createChecksum_length]
  omega

/-- a network with segwit addresses: its HRP is one `Validate` admits, short enough for a 32-byte
    program -/
structure SegwitNet (net : Network) : Prop where
  hrp : Proofs.Bech32.ValidHrp net.bech32
  short : net.bech32.length ≤ 30

theorem makeP2WPKHFromHash_eq (net : Network) (h : Bytes) (hne : net.bech32 ≠ []) :
    makeP2WPKHFromHash net h = Bech32.encode net.bech32 0 h := by
  have hg : address_MakeP2WPKHFromHash_0 (len_constants_CurrentNetwork_Bech32 := net.bech32.length) = false := by
    have := List.length_pos_iff.mpr hne
    simp only [address_MakeP2WPKHFromHash_0, decide_eq_false_iff_not]; omega
  rw [makeP2WPKHFromHash, hg]
  rfl

theorem makeP2WPKHFromHash_nil (net : Network) (h : Bytes) (hn : net.bech32 = []) :
    makeP2WPKHFromHash net h = .err := by
  rw [makeP2WPKHFromHash, hn]; rfl

theorem decode_of_bech32 (hs : Hashes) {net : Network} {s p : Bytes}
    (hd : Bech32.decode s = .ok (net.bech32, 0, p)) (hl : 41 ≤ s.length) :
    decode hs net s =
      if p.length = 20 then .ok (.p2wpkh, Spec.Address.scriptPubKey .p2wpkh p)
      else if p.length = 32 then .ok (.p2wsh, Spec.Address.scriptPubKey .p2wsh p)
      else .err := by
  rw [decode_of_not_base58 hs net (decodeBase58_long hs s hl), hd]
  exact if_neg (fun h => h.elim (fun h => h rfl) (fun h => h rfl))

theorem makeWitness_ok (net : Network) (hn : SegwitNet net) (h : Bytes) (hl : h.length = 20 ∨ h.length = 32) :
    ∃ s, makeP2WPKHFromHash net h = .ok s ∧ 41 ≤ s.length ∧ Bech32.decode s = .ok (net.bech32, 0, h) := by
  obtain ⟨hne, hlen⟩ := segwit_fits net.bech32 h hl hn.short
  obtain ⟨s, henc, hdec⟩ := Proofs.Bech32.decode_encode net.bech32 0 h hn.hrp (by decide) hne hlen
  exact ⟨s, by rw [makeP2WPKHFromHash_eq net h hn.hrp.ne]; exact henc,
    encode_length_ge net.bech32 0 h s (by rcases hl with hl | hl <;> omega) (by decide) hn.hrp.ne hlen henc, hdec⟩

theorem bech32_decode_hrp_ne (s hrp : Bytes) (v : Nat) (d : Bytes)
    (hd : Bech32.decode s = .ok (hrp, v, d)) : hrp ≠ [] := by
  obtain ⟨pos, _, _, _, hv, rfl, _⟩ := Proofs.Bech32.decode_ok_inv hd
  intro h0
  have hlen := congrArg List.length h0
  have := hv.pos1
  have := hv.room
  simp only [List.length_take, Proofs.Bech32.lower_length, List.length_nil] at hlen
  omega

theorem decode_foreign_hrp (hs : Hashes) (a b : Network) (ha : SegwitNet a) (hab : a.bech32 ≠ b.bech32)
    (h : Bytes) (hl : h.length = 20 ∨ h.length = 32) :
    ∃ s, makeP2WPKHFromHash a h = .ok s ∧ decode hs b s = .err := by
  obtain ⟨s, hmk, hs41, hdec⟩ := makeWitness_ok a ha h hl
  refine ⟨s, hmk, ?_⟩
  rw [decode_of_not_base58 hs b (decodeBase58_long hs s hs41), hdec]
  exact if_pos (Or.inl hab)

end BtcVerif.Proofs.Address
