/-
  Regrouping between 5-bit values and bytes, what an accepted Bech32 string consists of, and the two
  round trips of `Encode` / `Decode`.
-/
import BtcVerif.Proofs.Bech32Codec

namespace BtcVerif.Proofs.Bech32
open BtcVerif BtcVerif.Model BtcVerif.Model.Bech32 BtcVerif.Gen BtcVerif.Gen.Guards

theorem regroup_eq (G gs : List Bits) (R : Bits) (h : Chunked 8 G.flatten gs R) :
    regroup G = if R.length ≥ 5 ∨ bitsToNat R ≠ 0 then .err
      else .ok (gs.map fun g => UInt8.ofNat (bitsToNat g)) := by
  simp only [regroup, h.take_eq, h.drop_eq]
  simp only [h.mod_eq, bech32_BitGroupSize, trim_length_ne_zero, bitsBytes_flatten gs h.len]

theorem regroup_of_bytes (G : List Bits) (data : Bytes) (k : Nat) (hk : k < 5)
    (hG : G.flatten = bytesToBits data ++ List.replicate k false) : regroup G = .ok data := by
  have hc : Chunked 8 G.flatten (data.map fun b => byteToBits b.toNat) (List.replicate k false) :=
    ⟨by rw [hG, bytesToBits_eq], List.forall_mem_map.mpr fun b _ => byteToBits_length _,
      by rw [List.length_replicate]; omega⟩
  rw [regroup_eq G _ _ hc, if_neg (by rw [bitsToNat_replicate_false, List.length_replicate]; omega),
    map_map_cancel fun b _ => by rw [bitsToNat_byteToBits _ b.toNat_lt, UInt8.ofNat_toNat]]

/-- canonicity of the regrouping: what it accepts is exactly the 5-bit grouping of its result -/
theorem regroup_canonical (G : List Bits) (hG5 : ∀ g ∈ G, g.length = 5) (hne : G ≠ []) (d : Bytes)
    (h : regroup G = .ok d) : d ≠ [] ∧ bytesToIndices d = G.map bitsToNat := by
  obtain ⟨gs, R, hc⟩ := exists_chunked (t := 8) (by decide) G.flatten
  rw [regroup_eq G gs R hc] at h
  split at h
  · cases h
  · rename_i hcond
    injection h with h
    subst h
    -- `G` joins to the bits of the bytes followed by `R`, which is fewer than five zero bits
    have hlen := hc.length_eq
    rw [flatten_length_uniform 5 G hG5] at hlen
    have hGpos : 0 < G.length := List.length_pos_iff.mpr hne
    have hR0 := (trim_eq_nil_iff_all_false R).mp ((trim_eq_nil_iff R).mpr (by omega))
    have hbits := bytesToBits_map_ofNat gs hc.len
    have hbl : (gs.flatten).length = 8 * gs.length := flatten_length_uniform 8 gs hc.len
    refine ⟨fun hd => ?_, ?_⟩
    · rw [List.map_eq_nil_iff.mp hd] at hlen
      simp only [List.length_nil] at hlen
      omega
    · obtain ⟨k, hk, hpad, hmod⟩ := padRight5 gs.flatten (by omega)
      rw [bytesToIndices, bech32_BitGroupSize, hbits, hpad, show k = R.length by omega, ← hR0, hc.eq,
        split_flatten 5 (by decide) G hG5]

theorem decode_encode (hrp : Bytes) (version : Nat) (data : Bytes) (hh : ValidHrp hrp)
    (hv : version < 32) (hne : data ≠ [])
    (hlen : hrp.length + 1 + (1 + (bytesToIndices data).length) + 6 ≤ 90) :
    ∃ s, encode hrp version data = .ok s ∧ decode s = .ok (hrp, version, data) := by
  refine ⟨_, encode_normal hrp version data hne hv hlen, ?_⟩
  obtain ⟨k, hk, hbits⟩ := bytesToIndices_bits data hne
  have hil := bytesToIndices_length data hne
  have hlt := bytesToIndices_lt data hne
  have hdl : 0 < data.length := List.length_pos_iff.mpr hne
  have hckl := createChecksum_length hrp (version :: bytesToIndices data)
  have hvl : ((version :: bytesToIndices data) ++ createChecksum hrp (version :: bytesToIndices data)).length =
      1 + (bytesToIndices data).length + 6 := by rw [List.length_append, List.length_cons, hckl]; omega
  rw [decode_built hh (encode_values_lt hrp version hv data hne) (by omega),
    verify_create hrp _ (List.forall_mem_cons.mpr ⟨hv, hlt⟩), if_neg (by decide), if_neg (by omega),
    List.cons_append, List.map_cons, List.map_append, payloadOf_cons _ _ _ _ (by rw [List.length_map, hckl]),
    map_charBits_achar hlt, regroup_of_bytes _ data k hk hbits, alphaIndex_achar hv]
  rfl

theorem decode_ok_inv {s hrp : Bytes} {ver : Nat} {data : Bytes} (h : decode s = .ok (hrp, ver, data)) :
    ∃ pos c0 mid cs, ValidAt s pos ∧ hrp = (lower s).take pos ∧
      (lower s).drop (pos + 1) = c0 :: (mid ++ cs) ∧ cs.length = 6 ∧ mid ≠ [] ∧ ver = alphaIndex c0 ∧
      verifyChecksum hrp ((c0 :: (mid ++ cs)).map alphaIndex) = true ∧
      regroup (mid.map charBits) = .ok data := by
  obtain ⟨pos, hv⟩ : ∃ pos, ValidAt s pos :=
    Classical.byContradiction fun hn => by rw [decode_invalid s hn] at h; cases h
  rw [decode_normal s pos hv] at h
  split at h
  · cases h
  · rename_i hck
    split at h
    · cases h
    · rename_i h8
      obtain ⟨c0, mid, cs, hb, h6, hm⟩ := bech_split ((lower s).drop (pos + 1)) (by omega)
      rw [hb, payloadOf_cons _ _ _ _ h6] at h
      cases hr : regroup (mid.map charBits) <;> rw [hr] at h <;> cases h
      exact ⟨pos, c0, mid, cs, hv, rfl, hb, h6, fun hn => by rw [hn, List.length_nil] at hm; omega, rfl,
        by rw [← hb]; exact eq_true_of_ne_false hck, hr⟩

theorem encode_decode (s hrp : Bytes) (version : Nat) (data : Bytes)
    (hd : decode s = .ok (hrp, version, data)) : encode hrp version data = .ok (lower s) := by
  obtain ⟨pos, c0, mid, cs, hv, rfl, hb, h6, hmid, rfl, hck, hr⟩ := decode_ok_inv hd
  -- the data characters are alphabet characters, so they are the characters of their values
  have halpha : ∀ c ∈ c0 :: (mid ++ cs), alphabet.contains c = true := by
    rw [← hb, lower, ← List.map_drop]
    exact List.forall_mem_map.mpr hv.alpha
  have hback : ((c0 :: (mid ++ cs)).map alphaIndex).map achar = c0 :: (mid ++ cs) :=
    map_map_cancel fun c hc => (achar_alphaIndex c (halpha c hc)).1
  -- the payload values are the 5-bit groups of the payload
  obtain ⟨hdne, hidx⟩ := regroup_canonical _
    (List.forall_mem_map.mpr fun c _ => bits5_length _) (by simpa using hmid) data hr
  rw [List.map_map] at hidx
  replace hidx : bytesToIndices data = mid.map alphaIndex :=
    hidx.trans (List.map_congr_left fun c _ => bitsToNat_bits5 _ (alphaIndex_lt c))
  -- the checksum values are the ones `Encode` computes
  have hsplit : (c0 :: (mid ++ cs)).map alphaIndex =
      (alphaIndex c0 :: mid.map alphaIndex) ++ cs.map alphaIndex := by
    rw [List.map_cons, List.map_append, List.cons_append]
  have hlt : ∀ v ∈ (c0 :: (mid ++ cs)).map alphaIndex, v < 32 :=
    List.forall_mem_map.mpr fun c _ => alphaIndex_lt c
  rw [hsplit] at hck hlt
  obtain ⟨hlt1, hlt2⟩ := List.forall_mem_append.mp hlt
  have hcks := verify_unique _ _ _ hlt1 (by rw [List.length_map, h6]) hlt2 hck
  have hfind := rfind_some sepChar (lower s) pos (by rw [rfind_lower]; exact hv.sep)
  have hlen : ((lower s).take pos).length + 1 + (1 + (bytesToIndices data).length) + 6 ≤ 90 := by
    have h1 := congrArg List.length hb
    have := hv.max
    rw [List.length_drop, List.length_cons, List.length_append, h6, lower_length] at h1
    rw [hidx, List.length_map, List.length_take, lower_length]
    omega
  rw [encode_normal _ _ data hdne (alphaIndex_lt c0) hlen, hidx, ← hcks, ← hsplit, hback, ← hb,
    List.append_assoc]
  exact congrArg Outcome.ok hfind.2.1.symm

end BtcVerif.Proofs.Bech32
