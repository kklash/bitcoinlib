/-
  C11, the frame `30 len 02 |r| r 02 |s| s ht`: accepted strings are exactly the frames around two
  integer contents, the encoder (`Model/DER.encode`) emits such a frame, and decoding what it
  emits returns the fields (`decode_frame_content`); the converse round trip is assembled in `Props/C11.lean`.
-/
import BtcVerif.Proofs.DERInt
namespace BtcVerif.Model.DER
open BtcVerif BtcVerif.Gen.Guards BtcVerif.Spec

/-- `0x30 len 0x02 |r| r 0x02 |s| s ht` -/
def frame (rb sb : Bytes) (ht : UInt8) : Bytes :=
  0x30 :: byteOf (rb.length + sb.length + 4) :: 0x02 :: byteOf rb.length ::
    (rb ++ 0x02 :: byteOf sb.length :: (sb ++ [ht]))

theorem frame_length (rb sb : Bytes) (ht : UInt8) :
    (frame rb sb ht).length = rb.length + sb.length + 7 := by
  simp [frame]; omega

theorem byteOf_toNat {n : Nat} (h : n < 256) : (byteOf n).toNat = n := by
  unfold byteOf
  simp [UInt8.toNat_ofNat']; omega

theorem byteOf_of_toNat (b : UInt8) : byteOf b.toNat = b :=
  UInt8.toNat_inj.mp (byteOf_toNat b.toNat_lt)

theorem A_cons_succ (b : UInt8) (bs : Bytes) (i : Nat) : A (b :: bs) (i + 1) = A bs i := by
  simp [A, sigAt]

theorem A_cons_zero (b : UInt8) (bs : Bytes) : A (b :: bs) 0 = b.toNat := by
  simp [A, sigAt]

theorem A_append_right (xs ys : Bytes) (j : Nat) : A (xs ++ ys) (xs.length + j) = A ys j := by
  unfold A sigAt
  congr 1
  simp only [List.getD_eq_getElem?_getD]
  rw [List.getElem?_append_right (by omega)]
  congr 2; omega

theorem A_append_left (xs ys : Bytes) (j : Nat) (h : j < xs.length) : A (xs ++ ys) j = A xs j := by
  unfold A sigAt
  congr 1
  simp only [List.getD_eq_getElem?_getD]
  rw [List.getElem?_append_left h]

theorem A_frame_4plus (rb sb : Bytes) (ht : UInt8) (j : Nat) :
    A (frame rb sb ht) (4 + j) = A (rb ++ 0x02 :: byteOf sb.length :: (sb ++ [ht])) j := by
  unfold frame
  rw [show 4 + j = j + 1 + 1 + 1 + 1 by omega]
  simp only [A_cons_succ]

theorem drop_frame_4 (rb sb : Bytes) (ht : UInt8) :
    (frame rb sb ht).drop 4 = rb ++ 0x02 :: byteOf sb.length :: (sb ++ [ht]) := rfl

theorem drop_frame_6 (rb sb : Bytes) (ht : UInt8) :
    (frame rb sb ht).drop (6 + rb.length) = sb ++ [ht] := by
  rw [show 6 + rb.length = 4 + (rb.length + 2) by omega, ← List.drop_drop, drop_frame_4,
    ← List.drop_drop, List.drop_left' rfl]
  rfl

/-! ### what the decoder reads in a frame whose two length bytes do not wrap -/
section
variable (rb sb : Bytes) (ht : UInt8) (hlen : rb.length + sb.length + 4 < 256)
include hlen

theorem A_frame_1 : A (frame rb sb ht) 1 = rb.length + sb.length + 4 := byteOf_toNat hlen

theorem A_frame_3 : A (frame rb sb ht) 3 = rb.length := byteOf_toNat (n := rb.length) (by omega)

-- independent of the length bytes
omit hlen in
theorem A_frame_sTag : A (frame rb sb ht) (4 + rb.length) = 2 := by
  rw [A_frame_4plus, ← Nat.add_zero rb.length, A_append_right]; rfl

theorem A_frame_sLen : A (frame rb sb ht) (5 + rb.length) = sb.length := by
  rw [show 5 + rb.length = 4 + (rb.length + 1) by omega, A_frame_4plus, A_append_right]
  exact byteOf_toNat (n := sb.length) (by omega)

theorem rB_frame : rB (frame rb sb ht) = rb := by
  unfold rB; rw [A_frame_3 rb sb ht hlen, drop_frame_4, List.take_left' rfl]

theorem sB_frame : sB (frame rb sb ht) = sb := by
  unfold sB; rw [A_frame_3 rb sb ht hlen, A_frame_sLen rb sb ht hlen, drop_frame_6, List.take_left' rfl]

omit hlen in
theorem A_frame_last : A (frame rb sb ht) ((frame rb sb ht).length - 1) = ht.toNat := by
  rw [frame_length, show rb.length + sb.length + 7 - 1 = 4 + (rb.length + (sb.length + 0 + 1 + 1)) by omega,
    A_frame_4plus, A_append_right, A_cons_succ, A_cons_succ]
  exact A_append_right sb [ht] 0

theorem fields_frame : fields (frame rb sb ht) = ⟨beNat rb, beNat sb, ht.toNat⟩ := by
  unfold fields
  rw [rB_frame rb sb ht hlen, sB_frame rb sb ht hlen, A_frame_last]

end

theorem valid_frame (rb sb : Bytes) (ht : UInt8) (hr : IntOK rb) (hs : IntOK sb)
    (hr0 : rb ≠ []) (hs0 : sb ≠ []) (hlen : rb.length + sb.length + 7 ≤ 73) :
    Valid (frame rb sb ht) := by
  have hrl : 0 < rb.length := List.length_pos_iff.mpr hr0
  have hsl : 0 < sb.length := List.length_pos_iff.mpr hs0
  have h : rb.length + sb.length + 4 < 256 := by omega
  unfold Valid HeadOK SOK
  rw [rB_frame rb sb ht h, A_frame_1 rb sb ht h, A_frame_3 rb sb ht h, A_frame_sTag,
    A_frame_sLen rb sb ht h, frame_length, drop_frame_6, List.take_left' rfl]
  exact ⟨⟨by omega, hlen, rfl, by omega, rfl, by omega, by omega⟩, hr, rfl, by omega, by omega, hs⟩

/-! ### peeling a string from the front (for `eq_frame`) -/

theorem drop_eq_cons {bs : Bytes} {i : Nat} (h : i < bs.length) :
    bs.drop i = byteOf (A bs i) :: bs.drop (i + 1) := by
  rw [List.drop_eq_getElem_cons h, A, sigAt, byteOf_of_toNat, List.getD_eq_getElem?_getD,
    List.getElem?_eq_getElem h]
  rfl

theorem drop_split (bs : Bytes) (i k : Nat) :
    bs.drop i = (bs.drop i).take k ++ bs.drop (i + k) := by
  have := (List.take_append_drop k (bs.drop i)).symm
  rwa [List.drop_drop] at this

/-- a string with the six structure bytes of a frame in place is that frame (peeled from both ends) -/
theorem eq_frame (bs : Bytes) (k sl : Nat) (hlen : bs.length = k + sl + 7)
    (h0 : A bs 0 = 48) (h1 : A bs 1 = k + sl + 4) (h2 : A bs 2 = 2) (h3 : A bs 3 = k)
    (h4 : A bs (4 + k) = 2) (h5 : A bs (5 + k) = sl) :
    bs = frame ((bs.drop 4).take k) ((bs.drop (6 + k)).take sl) (byteOf (A bs (6 + k + sl))) := by
  have e8 : bs.drop (6 + k + sl) = [byteOf (A bs (6 + k + sl))] := by
    rw [drop_eq_cons (by omega), List.drop_eq_nil_of_le (by omega)]
  have e6 : bs.drop (6 + k) = (bs.drop (6 + k)).take sl ++ [byteOf (A bs (6 + k + sl))] := by
    rw [← e8]; exact drop_split bs _ _
  have e4 : bs.drop (4 + k) = 2 :: byteOf sl :: bs.drop (6 + k) := by
    rw [drop_eq_cons (by omega), drop_eq_cons (i := 4 + k + 1) (by omega), h4,
      show 4 + k + 1 = 5 + k by omega, h5, show 5 + k + 1 = 6 + k by omega]
    rfl
  have e0 : bs = byteOf (A bs 0) :: byteOf (A bs 1) :: byteOf (A bs 2) :: byteOf (A bs 3) :: bs.drop 4 := by
    match bs, hlen with
    | a :: b :: c :: d :: t, _ =>
      simp only [A, sigAt, List.getD_cons_zero, List.getD_cons_succ, byteOf_of_toNat, List.drop_succ_cons,
        List.drop_zero]
  rw [h0, h1, h2, h3] at e0
  unfold frame
  rw [sub_length (by omega), sub_length (by omega), ← e6, ← e4, ← drop_split bs 4 k]
  exact e0

theorem frame_of_valid {bs : Bytes} (h : Valid bs) :
    ∃ rb sb ht, bs = frame rb sb ht ∧ IntOK rb ∧ IntOK sb ∧ rb ≠ [] ∧ sb ≠ [] ∧
      rb.length + sb.length + 7 = bs.length ∧ fields bs = ⟨beNat rb, beNat sb, ht.toNat⟩ := by
  obtain ⟨⟨h9, h73, h0, h1, h2, h5, h3⟩, hr, h4, hsum, hsl, hs⟩ := h
  have lr : (rB bs).length = A bs 3 := sub_length (by omega)
  have ls : (sB bs).length = A bs (5 + A bs 3) := sub_length (by omega)
  refine ⟨rB bs, sB bs, _, eq_frame bs _ _ hsum.symm h0 (by omega) h2 rfl h4 rfl, hr, hs, ?_, ?_,
    by rw [lr, ls]; exact hsum, ?_⟩
  · intro e; rw [e] at lr; exact h3 lr.symm
  · intro e; rw [e] at ls; exact hsl ls.symm
  · rw [byteOf_toNat (A_lt _ _)]
    exact congrArg (fun i => (⟨_, _, A bs i⟩ : Sig)) (by omega)

/-- the integers `EncodeBigInt` accepts -/
def Encodable (v : Option Int) : Prop := ∃ z, v = some z ∧ 0 ≤ z ∧ z < 2 ^ 256

theorem checkEncodable_none : checkEncodable none = .err := rfl

theorem natAbs_lt_iff {z : Int} (h0 : 0 ≤ z) : z.natAbs < 2 ^ 256 ↔ z < 2 ^ 256 := by
  omega

theorem encodable_some (z : Int) : Encodable (some z) ↔ 0 ≤ z ∧ z < 2 ^ 256 :=
  ⟨fun ⟨_, e, h⟩ => Option.some.inj e ▸ h, fun h => ⟨z, rfl, h⟩⟩

theorem checkEncodable_checks (v : Option Int) : Checks (checkEncodable v) (Encodable v) () := by
  cases v with
  | none => exact .inr ⟨fun ⟨_, e, _⟩ => (nomatch e), rfl⟩
  | some z =>
    refine (Checks.guard_ok ?_).iff (encodable_some z).symm
    have := bitLen_le_iff z.natAbs 256
    simp only [der_CheckEncodableBigInt_0, Bool.false_or, Bool.or_eq_true, decide_eq_true_eq,
      Int.sign_eq_neg_one_iff_neg]
    omega

theorem encodeBigInt_checks (v : Option Int) :
    Checks (encodeBigInt v) (Encodable v)
      (0x02 :: byteOf (content (v.getD 0).natAbs).length :: content (v.getD 0).natAbs) := by
  unfold encodeBigInt
  refine ((checkEncodable_checks v).bind fun ⟨z, hz, _⟩ => ?_).iff (and_iff_left trivial)
  subst hz
  simp only [Option.getD_some]
  unfold content
  cases hv : beMin z.natAbs with
  | nil => exact .ok _
  | cons b rest =>
    have hm := (Proofs.and128 _ b.toNat_lt).2
    have hl : ¬ (((b :: rest).length : Int) = 0) := by simp only [List.length_cons]; omega
    by_cases hb : 128 ≤ b.toNat <;>
      simp only [der_EncodeBigInt_0, hl, hm, hb, decide_false, decide_true, Bool.false_or, if_true,
        Bool.false_eq_true, if_false] <;>
      exact .ok _

theorem encodeBigInt_err_none : encodeBigInt none = .err := rfl

theorem encode_checks (r s : Option Int) (ht : Nat) :
    Checks (encode r s ht) (Encodable r ∧ Encodable s ∧ ht ≤ 255)
      (frame (content (r.getD 0).natAbs) (content (s.getD 0).natAbs) (byteOf ht)) := by
  unfold encode
  refine (Checks.guard (P := ht ≤ 255) ?_ fun _ => (encodeBigInt_checks r).bind fun _ =>
    ((encodeBigInt_checks s).bind fun _ => ?_).iff (and_iff_left trivial)).iff and_rotate
  · simp only [der_EncodeSignature_0, decide_eq_true_eq]; omega
  unfold frame
  simp only [List.length_cons, List.cons_append, List.append_assoc]
  rw [show ∀ a b : Nat, a + 1 + 1 + (b + 1 + 1) = a + b + 4 by omega]
  exact .ok _

theorem encode_ok {zr zs : Int} {ht : Nat} (hr0 : 0 ≤ zr) (hr1 : zr < 2 ^ 256) (hs0 : 0 ≤ zs)
    (hs1 : zs < 2 ^ 256) (hht : ht ≤ 255) :
    encode (some zr) (some zs) ht =
      .ok (frame (content zr.natAbs) (content zs.natAbs) (byteOf ht)) :=
  (encode_checks _ _ ht).eq_ok ⟨(encodable_some zr).mpr ⟨hr0, hr1⟩, (encodable_some zs).mpr ⟨hs0, hs1⟩, hht⟩

theorem encode_nat_ok {r s ht : Nat} (hr : r < 2 ^ 256) (hs : s < 2 ^ 256) (hht : ht ≤ 255) :
    encode (some (r : Int)) (some (s : Int)) ht = .ok (frame (content r) (content s) (byteOf ht)) :=
  encode_ok (Int.natCast_nonneg r) (by exact_mod_cast hr) (Int.natCast_nonneg s) (by exact_mod_cast hs) hht

theorem encode_err_ht (r s : Option Int) {ht : Nat} (h : 255 < ht) : encode r s ht = .err :=
  (encode_checks r s ht).eq_err fun h' => Nat.not_lt.mpr h'.2.2 h

theorem content_ne_nil (n : Nat) : content n ≠ [] := by
  intro h; have := (content_length n).1; rw [h] at this; simp at this

theorem decode_frame_content {r s ht : Nat} (hr : r < 2 ^ 256) (hs : s < 2 ^ 256) (hht : ht ≤ 255) :
    Valid (frame (content r) (content s) (byteOf ht)) ∧
    decode (frame (content r) (content s) (byteOf ht)) = .ok ⟨r, s, ht⟩ ∧
    9 ≤ (frame (content r) (content s) (byteOf ht)).length ∧
    (frame (content r) (content s) (byteOf ht)).length ≤ 73 := by
  have lr := content_length_le hr
  have ls := content_length_le hs
  have lr1 := (content_length r).1
  have ls1 := (content_length s).1
  have hv := valid_frame (content r) (content s) (byteOf ht) (IntOK_content r) (IntOK_content s)
    (content_ne_nil r) (content_ne_nil s) (by omega)
  refine ⟨hv, ?_, by rw [frame_length]; omega, by rw [frame_length]; omega⟩
  rw [(decode_checks _).eq_ok hv, fields_frame _ _ _ (by omega), beNat_content,
    beNat_content, byteOf_toNat (by omega)]

end BtcVerif.Model.DER
