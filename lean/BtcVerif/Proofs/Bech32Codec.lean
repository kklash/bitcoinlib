/-
  `Validate`, `Decode` and `Encode` of Bech32 in normal form: what each computes on the inputs it
  accepts, in terms of the position of the separator and of value lists.
-/
import BtcVerif.Proofs.Bech32
import BtcVerif.Proofs.Bech32Bits
import BtcVerif.Proofs.Bech32Str

namespace BtcVerif.Proofs.Bech32
open BtcVerif BtcVerif.Model BtcVerif.Model.Bech32 BtcVerif.Gen BtcVerif.Gen.Guards

/-- what `Validate` checks, in terms of the position of the last separator; the reference's `rfind`
    serves as the proof-side notion of that position (`lastIndex_eq` ties the model's `LastIndex` to it) -/
structure ValidAt (s : Bytes) (pos : Nat) : Prop where
  sep : Spec.Bech32.rfind sepChar s = some pos
  pos1 : 1 ≤ pos
  room : pos + 7 ≤ s.length
  max : s.length ≤ 90
  range : ∀ c ∈ s, 33 ≤ c.toNat ∧ c.toNat ≤ 126
  alpha : ∀ c ∈ s.drop (pos + 1), alphabet.contains (lowerByte c) = true
  case : s = lower s ∨ s = upper s

theorem validate_conj (s : Bytes) : validate s = true ↔
    bech32_Validate_0 (len_bechAndHrp := s.length) = false ∧
    bech32_Validate_1 (sepIndex := lastIndex sepChar s) (len_bechAndHrp := s.length) = false ∧
    validChars (lastIndex sepChar s) s 0 = true ∧ (s != lower s && s != upper s) = false := by
  unfold validate
  simp only []
  generalize bech32_Validate_0 (len_bechAndHrp := s.length) = a
  generalize bech32_Validate_1 (sepIndex := lastIndex sepChar s) (len_bechAndHrp := s.length) = b
  generalize validChars (lastIndex sepChar s) s 0 = c
  generalize (s != lower s && s != upper s) = d
  cases a <;> cases b <;> cases c <;> cases d <;> simp

theorem validate_iff (s : Bytes) : validate s = true ↔ ∃ pos, ValidAt s pos := by
  rw [validate_conj, lastIndex_eq]
  cases hr : Spec.Bech32.rfind sepChar s with
  | none =>
    refine ⟨fun ⟨_, h1, _⟩ => by simp [bech32_Validate_1] at h1, fun ⟨pos, hv⟩ => ?_⟩
    have := hv.sep
    rw [hr] at this; cases this
  | some pos =>
    have hvc : validChars (pos : Int) s 0 = _ := validChars_eq pos s 0
    simp only [hvc, Nat.sub_zero, bech32_Validate_0, bech32_Validate_1, Bool.or_eq_false_iff,
      decide_eq_false_iff_not, Bool.and_eq_true, List.all_eq_true, decide_eq_true_eq,
      Bool.and_eq_false_iff, bne_eq_false_iff_eq]
    constructor
    · rintro ⟨h0, h1, ⟨h2, h3⟩, h4⟩
      exact ⟨pos, hr, by omega, by omega, by omega, h2, h3, h4⟩
    · rintro ⟨pos', hv⟩
      obtain rfl : pos' = pos := Option.some.inj (hv.sep.symm.trans hr)
      have := hv.room; have := hv.max; have := hv.pos1
      exact ⟨by omega, by omega, ⟨hv.range, hv.alpha⟩, hv.case⟩

theorem decode_invalid (s : Bytes) (h : ¬ ∃ pos, ValidAt s pos) : decode s = .err := by
  have hv : validate s = false := Bool.eq_false_iff.mpr fun hv => h ((validate_iff s).mp hv)
  rw [decode, hv]
  rfl

/-- the version value read from the first 5-bit group (decode.go:133-137) -/
theorem versionOf_charBits (c0 : UInt8) : versionOf (charBits c0) = .ok (alphaIndex c0) := by
  have hlt := alphaIndex_lt c0
  rw [versionOf, charBits_eq, bitsToNat_bits5 _ hlt]
  generalize alphaIndex c0 = v at hlt
  by_cases hv : v = 0
  · subst hv; simp [Base58.natBytes_zero, bech32_Decode_1]
  · have hb : (UInt8.ofNat v).toNat = v := UInt8.toNat_ofNat_of_lt' (Nat.lt_trans hlt (by decide))
    simp [Base58.natBytes_of_lt hv (by omega), bech32_Decode_1, hb]

/-- the part of `Decode` after the checksum and length tests -/
def payloadOf (hrp bech : Bytes) : Outcome (Bytes × Nat × Bytes) :=
  match bech with
  | [] => .panic
  | c0 :: _ =>
    match regroup (((bech.take (bech.length - 6)).drop 1).map charBits) with
    | .ok d => .ok (hrp, alphaIndex c0, d)
    | .err => .err
    | .panic => .panic

theorem payloadOf_cons (hrp : Bytes) (c0 : UInt8) (mid cs : Bytes) (h6 : cs.length = 6) :
    payloadOf hrp (c0 :: (mid ++ cs)) =
      (regroup (mid.map charBits)).map fun d => (hrp, alphaIndex c0, d) := by
  have hmid : ((c0 :: (mid ++ cs)).take ((c0 :: (mid ++ cs)).length - 6)).drop 1 = mid := by
    rw [List.length_cons, List.length_append, h6, show mid.length + 6 + 1 - 6 = mid.length + 1 by omega,
      List.take_succ_cons, List.drop_one, List.tail_cons, List.take_left' rfl]
  rw [payloadOf, hmid]
  cases regroup (mid.map charBits) <;> rfl

theorem bech_split (bech : Bytes) (h7 : 7 ≤ bech.length) :
    ∃ c0 mid cs, bech = c0 :: (mid ++ cs) ∧ cs.length = 6 ∧ mid.length + 7 = bech.length := by
  match bech, h7 with
  | c0 :: rest, h7 =>
    rw [List.length_cons] at h7
    refine ⟨c0, rest.take (rest.length - 6), rest.drop (rest.length - 6), by rw [List.take_append_drop], ?_, ?_⟩
    · rw [List.length_drop]; omega
    · rw [List.length_take, List.length_cons]; omega

theorem decode_normal (s : Bytes) (pos : Nat) (hv : ValidAt s pos) :
    decode s =
      if verifyChecksum ((lower s).take pos) (((lower s).drop (pos + 1)).map alphaIndex) = false then .err
      else if ((lower s).drop (pos + 1)).length < 8 then .err
      else payloadOf ((lower s).take pos) ((lower s).drop (pos + 1)) := by
  have hsep : separate (lower s) = .ok ((lower s).take pos, (lower s).drop (pos + 1)) := by
    have := hv.room
    have hl := lower_length s
    rw [separate, lastIndex_eq, rfind_lower, hv.sep]
    exact if_neg (by simp only [Int.toNat_natCast]; omega)
  simp only [decode, (validate_iff s).mpr ⟨pos, hv⟩, hsep, bech32_bechToBitGroups_0, bech32_Decode_0,
    List.length_map, Bool.not_true, Bool.false_eq_true, if_false, Bool.not_eq_true', decide_eq_true_eq]
  generalize (lower s).drop (pos + 1) = bech
  generalize (lower s).take pos = hrp
  simp only [show ((bech.length : Int) < 8) ↔ bech.length < 8 by omega]
  split
  · rfl
  · split
    · rfl
    · rename_i h8
      match bech, h8 with
      | c0 :: rest, h8 =>
        rw [List.length_cons] at h8
        simp only [List.map_cons, versionOf_charBits, payloadOf, bech32_ChecksumSize, List.length_cons,
          List.map_take, List.map_drop]
        rw [if_neg (by omega)]
        cases regroup _ <;> rfl

/-- a human-readable part that `Validate` admits and `Decode` returns unchanged -/
structure ValidHrp (hrp : Bytes) : Prop where
  ne : hrp ≠ []
  range : ∀ c ∈ hrp, 33 ≤ c.toNat ∧ c.toNat ≤ 126
  lowercase : lower hrp = hrp

theorem map_alphaIndex_achar {vals : List Nat} (h : ∀ v ∈ vals, v < 32) :
    (vals.map achar).map alphaIndex = vals :=
  map_map_cancel fun v hv => alphaIndex_achar (h v hv)

theorem map_charBits_achar {vals : List Nat} (h : ∀ v ∈ vals, v < 32) :
    (vals.map achar).map charBits = vals.map bits5 := by
  rw [List.map_map]
  exact List.map_congr_left fun v hv => by rw [Function.comp, charBits_eq, alphaIndex_achar (h v hv)]

theorem rfind_built (hrp : Bytes) {vals : List Nat} (h : ∀ v ∈ vals, v < 32) :
    Spec.Bech32.rfind sepChar (hrp ++ [sepChar] ++ vals.map achar) = some hrp.length := by
  rw [List.append_assoc, List.singleton_append]
  refine rfind_append sepChar hrp _ fun hm => ?_
  obtain ⟨v, hv, he⟩ := List.mem_map.mp hm
  exact achar_ne_sep (h v hv) he

theorem lower_built {hrp : Bytes} (hh : ValidHrp hrp) {vals : List Nat} (h : ∀ v ∈ vals, v < 32) :
    lower (hrp ++ [sepChar] ++ vals.map achar) = hrp ++ [sepChar] ++ vals.map achar := by
  have hl : (vals.map achar).map lowerByte = vals.map achar := by
    rw [List.map_map]
    exact List.map_congr_left fun v hv => lowerByte_achar (h v hv)
  have hs : lowerByte sepChar = sepChar := by decide
  simp only [lower, List.map_append, List.map_cons, List.map_nil, hs, hl]
  rw [show hrp.map lowerByte = hrp from hh.lowercase]

theorem validAt_built {hrp : Bytes} (hh : ValidHrp hrp) {vals : List Nat} (h : ∀ v ∈ vals, v < 32)
    (h6 : 6 ≤ vals.length) (hlen : hrp.length + 1 + vals.length ≤ 90) :
    ValidAt (hrp ++ [sepChar] ++ vals.map achar) hrp.length where
  sep := rfind_built hrp h
  pos1 := List.length_pos_iff.mpr hh.ne
  room := by simp only [List.length_append, List.length_cons, List.length_nil, List.length_map]; omega
  max := by simp only [List.length_append, List.length_cons, List.length_nil, List.length_map]; omega
  range := List.forall_mem_append.mpr ⟨List.forall_mem_append.mpr ⟨hh.range, by decide⟩,
    List.forall_mem_map.mpr fun v hv => achar_range (h v hv)⟩
  alpha := by
    rw [List.drop_left' (by simp)]
    refine List.forall_mem_map.mpr fun v hv => ?_
    rw [lowerByte_achar (h v hv)]
    exact contains_achar (h v hv)
  case := Or.inl (lower_built hh h).symm

theorem decode_built {hrp : Bytes} (hh : ValidHrp hrp) {vals : List Nat} (h : ∀ v ∈ vals, v < 32)
    (hlen : hrp.length + 1 + vals.length ≤ 90) :
    decode (hrp ++ [sepChar] ++ vals.map achar) =
      if verifyChecksum hrp vals = false then .err else if vals.length < 8 then .err
      else payloadOf hrp (vals.map achar) := by
  by_cases h6 : 6 ≤ vals.length
  · rw [decode_normal _ _ (validAt_built hh h h6 hlen), lower_built hh h, List.append_assoc,
      List.take_left' rfl, ← List.append_assoc, List.drop_left' (by simp), map_alphaIndex_achar h,
      List.length_map]
  · -- too short for a checksum: `Validate` refuses
    rw [if_pos (show vals.length < 8 by omega), decode_invalid]
    · split <;> rfl
    · rintro ⟨pos, hp⟩
      have hpos := hp.sep
      rw [rfind_built hrp h] at hpos
      have := hp.room
      simp only [List.length_append, List.length_cons, List.length_nil, List.length_map,
        ← Option.some.inj hpos] at this
      omega

theorem charOf_ok (v : Nat) (hlt : v < 32) : charOf v = .ok (achar v) := by
  -- the guard converts the `uint8` to Go's 64-bit `int`
  have hw := Gen.wrapS_nat v (by omega)
  have : ¬ ((v : Int) ≥ 32) := by omega
  simp only [charOf, bech32_encodeValues_1, hw, this, decide_false, Bool.false_eq_true, if_false,
    achar_get hlt]

theorem encodeValues_ok (hrp : Bytes) (vals : List Nat)
    (hall : ∀ v ∈ vals ++ createChecksum hrp vals, v < 32) :
    encodeValues hrp vals = .ok (hrp ++ [sepChar] ++ (vals ++ createChecksum hrp vals).map achar) := by
  rw [encodeValues, mapM'_ok charOf achar _ fun v hv => charOf_ok v (hall v hv)]

theorem bytesToIndices_eq (data : Bytes) (hne : data ≠ []) :
    ∃ k, k < 5 ∧ 5 ∣ (bytesToBits data ++ List.replicate k false).length ∧
      bytesToIndices data = (split (bytesToBits data ++ List.replicate k false) 5).map bitsToNat := by
  have hlen : (bytesToBits data).length ≠ 0 := by
    rw [bytesToBits_length]
    exact fun h => hne (List.eq_nil_of_length_eq_zero (by omega))
  obtain ⟨k, hk, hpad, hmod⟩ := padRight5 (bytesToBits data) hlen
  refine ⟨k, hk, Nat.dvd_of_mod_eq_zero ?_, by rw [bytesToIndices, bech32_BitGroupSize, hpad]⟩
  rw [List.length_append, List.length_replicate, hmod]

theorem bytesToIndices_lt (data : Bytes) (hne : data ≠ []) : ∀ v ∈ bytesToIndices data, v < 32 := by
  obtain ⟨k, _, hd, heq⟩ := bytesToIndices_eq data hne
  rw [heq]
  refine List.forall_mem_map.mpr fun g hg => ?_
  simpa only [split_length_each _ 5 (by decide) hd g hg] using bitsToNat_lt g

theorem bytesToIndices_bits (data : Bytes) (hne : data ≠ []) :
    ∃ k, k < 5 ∧ ((bytesToIndices data).map bits5).flatten = bytesToBits data ++ List.replicate k false := by
  obtain ⟨k, hk, hd, heq⟩ := bytesToIndices_eq data hne
  refine ⟨k, hk, ?_⟩
  rw [heq, map_map_cancel fun g hg => bits5_bitsToNat g (split_length_each _ 5 (by decide) hd g hg),
    flatten_split _ 5 (by decide)]

theorem bytesToIndices_length (data : Bytes) (hne : data ≠ []) :
    (bytesToIndices data).length = (8 * data.length + 4) / 5 := by
  obtain ⟨k, hk, hbits⟩ := bytesToIndices_bits data hne
  have := congrArg List.length hbits
  rw [flatten_length_uniform 5 _ (List.forall_mem_map.mpr fun v _ => bits5_length v), List.length_map,
    List.length_append, bytesToBits_length, List.length_replicate] at this
  omega

theorem encode_values_lt (hrp : Bytes) (version : Nat) (hv : version < 32) (data : Bytes) (hne : data ≠ []) :
    ∀ v ∈ (version :: bytesToIndices data) ++ createChecksum hrp (version :: bytesToIndices data), v < 32 :=
  List.forall_mem_append.mpr
    ⟨List.forall_mem_cons.mpr ⟨hv, bytesToIndices_lt data hne⟩, createChecksum_lt _ _⟩

/-- `Encode` as one case distinction (`version` is a byte) -/
theorem encode_eq (hrp : Bytes) (version : Nat) (hb : version < 256) (data : Bytes) :
    encode hrp version data =
      if data = [] ∨ 32 ≤ version ∨ 90 < hrp.length + 1 + (1 + (bytesToIndices data).length) + 6 then .err
      else .ok (hrp ++ [sepChar] ++ ((version :: bytesToIndices data) ++
        createChecksum hrp (version :: bytesToIndices data)).map achar) := by
  have hw := Gen.wrapS_nat version (by omega)
  have h0 : bech32_Encode_0 (data_isnil := false) (len_data := data.length) = decide (data = []) := by
    simp only [bech32_Encode_0, Bool.false_or, decide_eq_decide, ← List.length_eq_zero_iff]; omega
  have h1 : bech32_Encode_1 (version := version) = decide (32 ≤ version) := by
    simp only [bech32_Encode_1, hw, ge_iff_le, decide_eq_decide]; omega
  have h2 : bech32_Encode_2 (len_hrp := hrp.length) (len_values := (version :: bytesToIndices data).length) =
      decide (90 < hrp.length + 1 + (1 + (bytesToIndices data).length) + 6) := by
    simp only [bech32_Encode_2, List.length_cons, gt_iff_lt, decide_eq_decide]; omega
  simp only [encode, h0, h1, h2, decide_eq_true_eq]
  by_cases hd : data = []
  · rw [if_pos hd, if_pos (Or.inl hd)]
  · by_cases hv : 32 ≤ version
    · rw [if_neg hd, if_pos hv, if_pos (Or.inr (Or.inl hv))]
    · by_cases hl : 90 < hrp.length + 1 + (1 + (bytesToIndices data).length) + 6
      · rw [if_neg hd, if_neg hv, if_pos hl, if_pos (Or.inr (Or.inr hl))]
      · rw [if_neg hd, if_neg hv, if_neg hl, if_neg (by simp only [hd, hv, hl, or_self, not_false_eq_true]),
          encodeValues_ok _ _ (encode_values_lt hrp version (by omega) data hd)]

theorem encode_normal (hrp : Bytes) (version : Nat) (data : Bytes) (hne : data ≠ []) (hv : version < 32)
    (hlen : hrp.length + 1 + (1 + (bytesToIndices data).length) + 6 ≤ 90) :
    encode hrp version data =
      .ok (hrp ++ [sepChar] ++
        ((version :: bytesToIndices data) ++ createChecksum hrp (version :: bytesToIndices data)).map achar) := by
  rw [encode_eq hrp version (by omega) data, if_neg (not_or.mpr ⟨hne, by omega⟩)]

/-- `Encode` never panics: every value it looks up is below 32 -/
theorem encode_ne_panic (hrp : Bytes) (version : Nat) (hb : version < 256) (data : Bytes) :
    encode hrp version data ≠ .panic := by
  rw [encode_eq hrp version hb data]
  split <;> nofun

end BtcVerif.Proofs.Bech32
