/-
  C14 — the content of the English word list: 2048 words of lower-case ASCII letters (so no word
  contains a space, the separator of a mnemonic sentence) whose keys — the first eight bytes read as
  a number — increase strictly, hence no repeated word.  One kernel evaluation on the
  pinned copy `Spec.Bip39.wordList` establishes this; the list regenerated from wordlist.go is that
  copy (re-checked on every run).
-/
import BtcVerif.Model.Bip39
import BtcVerif.Spec.Bip39

namespace BtcVerif.Proofs.Bip39
open BtcVerif BtcVerif.Model.Bip39

/-! `ByteArray.toList` is a loop defined by well-founded recursion, which the kernel evaluates very
    slowly; the check below is stated on the underlying list, `.data.toList`. -/

theorem toList_loop (bs : ByteArray) (i : Nat) (r : List UInt8) :
    ByteArray.toList.loop bs i r = r.reverse ++ bs.data.toList.drop i := by
  fun_induction ByteArray.toList.loop bs i r with
  | case1 i r h ih =>
    have h' : i < bs.data.toList.length := h
    rw [ih, List.reverse_cons, List.append_assoc, List.drop_eq_getElem_cons h']
    simp [ByteArray.get!, getElem!_pos bs.data i h]
  | case2 i r h =>
    have h' : bs.data.toList.length ≤ i := Nat.le_of_not_lt h
    rw [List.drop_eq_nil_of_le h', List.append_nil]

theorem utf8_eq (s : String) : utf8 s = s.toByteArray.data.toList := by
  simp [utf8, ByteArray.toList, toList_loop]

/-- a word as a number: its first 8 bytes, zero-padded on the right, read big-endian.  (Any function
    would do for `Nodup`; this one makes the order of keys the byte order of words of ≤ 8 bytes.) -/
def key : Bytes → Nat
  | [] => 0
  | b :: t => b.toNat * 256 ^ 7 + key t / 256

def increasingFrom : Nat → List Nat → Bool
  | _, [] => true
  | a, b :: t => decide (a < b) && increasingFrom b t

def lowerCase (w : Bytes) : Bool := w.all fun b => decide (97 ≤ b.toNat) && decide (b.toNat ≤ 122)

/-- what the kernel evaluates on the 2048 words -/
def check (l : List Bytes) : Bool :=
  decide (l.length = 2048) && l.all lowerCase && increasingFrom 0 (l.map key)

theorem increasingFrom_pairwise {a : Nat} {l : List Nat} (h : increasingFrom a l = true) :
    (a :: l).Pairwise (· < ·) := by
  induction l generalizing a with
  | nil => exact List.pairwise_singleton _ _
  | cons b t ih =>
    simp only [increasingFrom, Bool.and_eq_true, decide_eq_true_eq] at h
    have hb := ih h.2
    refine List.pairwise_cons.mpr ⟨fun c hc => ?_, hb⟩
    rcases List.mem_cons.mp hc with rfl | hc
    · exact h.1
    · exact Nat.lt_trans h.1 (List.rel_of_pairwise_cons hb hc)

theorem nodup_of_increasing {a : Nat} {l : List Bytes} (h : increasingFrom a (l.map key) = true) :
    l.Nodup :=
  ((List.pairwise_cons.mp (increasingFrom_pairwise h)).2.imp Nat.ne_of_lt).of_map key
    fun _ _ hab heq => hab (congrArg key heq)

theorem no_space_of_lowerCase {w : Bytes} (h : lowerCase w = true) : (0x20 : UInt8) ∉ w := by
  intro hm
  have := List.all_eq_true.mp h _ hm
  simp at this

theorem check_pinned :
    check (Spec.Bip39.wordList.map fun s => s.toByteArray.data.toList) = true := by decide +kernel

/-- T1: the list regenerated from wordlist.go is the pinned copy (re-checked on every run) -/
theorem gen_wordList_eq_spec : BtcVerif.Gen.bip39_WordList = Spec.Bip39.wordList := rfl

theorem wordList_checked : check wordList = true := by
  rw [wordList, gen_wordList_eq_spec, funext utf8_eq]
  exact check_pinned

theorem wordList_length : wordList.length = 2048 := by
  have := wordList_checked
  simp only [check, Bool.and_eq_true, decide_eq_true_eq] at this
  exact this.1.1

theorem wordList_nodup : wordList.Nodup := by
  have := wordList_checked
  simp only [check, Bool.and_eq_true] at this
  exact nodup_of_increasing this.2

theorem wordList_lowerCase : ∀ w ∈ wordList, lowerCase w = true := by
  have := wordList_checked
  simp only [check, Bool.and_eq_true, List.all_eq_true] at this
  exact this.1.2

end BtcVerif.Proofs.Bip39
